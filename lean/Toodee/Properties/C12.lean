import Toodee.Properties.C07
/-
  C12 — Leaking a drain, iterator or view leaves a valid array.

  The only returned values that own anything or have a destructor the array depends on are the two drains.
  * `mem::forget(remove_row(i))` at any stage of consumption: the array holds exactly the rows before `i` (`Vec::drain`'s leak
    amplification leaves `data[..start]`; the wrapper keeps the dimensions in step): shape invariant holds, cells are a prefix
    of the old cells, and old cells = kept ++ yielded ++ leaked (a permutation: nothing duplicated).
  * `mem::forget(remove_col(i))` at any stage: the array is empty `(0,0)`; everything not yet yielded is leaked; nothing duplicated.
  * iterators (`Rows`, `RowsMut`, `Col`, `ColMut`, `Cells`, `CellsMut`) and views own nothing and have no destructor: in the
    window model they are plain values separate from the buffer, so forgetting them cannot change the array (stated for
    completeness); `into_iter()` consumes the array.

  Theorems: `C12_leak_drain_row`, `C12_leak_drain_row_run` (first item), `C12_leak_drain_col_run`,
  `C12_drain_col_steps_keep_array` (second).  No theorem for the third item: forgetting one of the other nine kinds of value
  changes nothing by construction of the model (a borrow returns no buffer), which the correspondence run, not a theorem, ties
  to the code (DESIGN.md §9).
-/
namespace Toodee
variable {α : Type}

/-- leaking the row drain after it yielded `yielded` (from either end) and still holds `items'` -/
theorem C12_leak_drain_row (m : Mode) (t : TD α) (h : t.Inv) (i : Nat) (hi : i < t.numRows)
    (d : DrainRow α) (hd : t.removeRow m i = .ok d) (items' yielded : List α)
    (hy : (items' ++ yielded).Perm d.items) :
    let r := ({ d with items := items' } : DrainRow α).leak
    r.1.Inv ∧ r.1.data = t.data.take (i * t.numCols) ∧ r.1.numRows = i ∧
    (r.1.data ++ yielded ++ r.2).Perm t.data := by
  rw [h.removeRow_ok m hi] at hd
  cases hd
  refine ⟨(h.take_rows (Nat.le_of_lt hi)).1, rfl, rfl, ?_⟩
  show (t.data.take (i * t.numCols) ++ yielded ++ (items' ++ t.data.drop (i * t.numCols + t.numCols))).Perm t.data
  refine (perm_shuffle _ _ _ _).trans ?_
  conv => rhs; rw [take_mid_drop t.data (i * t.numCols) t.numCols]
  rw [List.append_assoc, List.append_assoc, ← List.append_assoc items']
  exact (hy.append_right _).append_left _

/-- `mem::forget(remove_row(i))` after any consumption `w` from either end: shape invariant, the rows before `i` survive, and the
    surviving cells, the yielded items and the leaked elements are together exactly the old cells (nothing duplicated) -/
theorem C12_leak_drain_row_run (m : Mode) (t : TD α) (h : t.Inv) (i : Nat) (hi : i < t.numRows) (w : List Bool) :
    ∃ d, t.removeRow m i = .ok d ∧
      (d.run w).2.leak.1.Inv ∧ (d.run w).2.leak.1.data = t.data.take (i * t.numCols) ∧ (d.run w).2.leak.1.numRows = i ∧
      (d.run w).2.leak.1.grid = t.grid.take i ∧
      ((d.run w).2.leak.1.data ++ (d.run w).1 ++ (d.run w).2.leak.2).Perm t.data := by
  have he := h.removeRow_ok m hi
  have hy := List.perm_append_comm.trans (Seq.ends_perm (t.rowCells i) w)
  have h4 := (C12_leak_drain_row m t h i hi _ he _ _ hy).2.2.2
  have hl := h.take_rows (Nat.le_of_lt hi)
  refine ⟨_, he, ?_⟩
  rw [DrainRow.run_eq]
  exact ⟨hl.1, rfl, rfl, hl.2, h4⟩

/-- `mem::forget(remove_col(i))` after any consumption `w` from either end: the array is what `remove_col` left behind — the
    empty array `(0,0)`, which satisfies the shape invariant — and the yielded items plus the leaked elements are exactly the old
    cells (nothing duplicated, nothing reachable through the array any more) -/
theorem C12_leak_drain_col_run (m : Mode) (t : TD α) (h : t.Inv) (i : Nat) (hi : i < t.numCols) (w : List Bool) :
    ∃ d ys d', t.removeCol m i = .ok d ∧ d.run m w = .ok (ys, d') ∧
      d'.leak.1 = (⟨[], 0, 0⟩ : TD α) ∧ d'.leak.1.Inv ∧ (ys ++ d'.leak.2).Perm t.data := by
  have he := h.removeCol_ok m hi
  obtain ⟨hwf, _⟩ := h.col_cursor hi
  obtain ⟨it', k', _, _, hrun⟩ := DrainCol.run_spec m w ⟨_, i, t.numCols, t.numRows, t.data, [], 0, 0, 0⟩ t.numRows hwf
  -- the yielded positions are distinct cells of the column, inside the buffer
  have hnodup := Col.abs_nodup ⟨⟨i, (t.numRows - 1) * t.numCols + 1⟩, t.numCols - 1⟩ t.numRows
  have hinside := hwf.abs_inside
  generalize Col.abs _ t.numRows = L at hrun hnodup hinside
  have hperm := Seq.ends_perm L w
  have hnd : (Seq.ends L w).1.Nodup := (List.nodup_append.1 (hperm.nodup_iff.2 hnodup)).1
  have hin : ∀ p ∈ (Seq.ends L w).1, p < t.data.length := fun p hp => hinside p (hperm.subset (List.mem_append_left _ hp))
  refine ⟨_, _, _, he, hrun, ?_⟩
  rw [DrainCol.leak_of_zero _ rfl rfl rfl]
  exact ⟨rfl, TD.Inv.nil,
    DrainCol.leak_conserves t.data _ _ (by rw [List.append_nil]; exact List.reverse_perm _) hnd hin⟩

/-- consuming a column drain never touches what the borrowed array shows (the three fields `remove_col` zeroed) -/
theorem C12_drain_col_steps_keep_array (m : Mode) (d : DrainCol α) :
    (∀ x d', d.next = .ok (x, d') → d'.tdLen = d.tdLen ∧ d'.tdCols = d.tdCols ∧ d'.tdRows = d.tdRows ∧ d'.buf = d.buf) ∧
    (∀ x d', d.nextBack m = .ok (x, d') → d'.tdLen = d.tdLen ∧ d'.tdCols = d.tdCols ∧ d'.tdRows = d.tdRows ∧ d'.buf = d.buf) := by
  -- `next` and `next_back` differ only in which end of the cursor they ask (`r`): the cell is read, the position recorded,
  -- nothing else is written (whatever the cursor: no well-formedness is assumed)
  refine ⟨fun x d' hx => ?_, fun x d' hx => ?_⟩
  all_goals
    first
      | (rw [DrainCol.next] at hx; generalize d.iter.next = r at hx)
      | (rw [DrainCol.nextBack] at hx; generalize d.iter.nextBack m = r at hx)
    rcases r with e | ⟨_ | p, it⟩
    · cases hx
    · cases hx
      exact ⟨rfl, rfl, rfl, rfl⟩
    · simp only [ok_bind] at hx
      cases hr : readCell d.buf p with
      | error e => rw [hr] at hx; cases hx
      | ok y =>
        rw [hr] at hx
        cases hx
        exact ⟨rfl, rfl, rfl, rfl⟩

/-- non-vacuity: leak a column drain of a 3x2 array after pulling one item from the back -/
example : (do let d ← TD.removeCol .debug (⟨[1, 2, 3, 4, 5, 6], 2, 3⟩ : TD Nat) 1
              let (ys, d') ← d.run .debug [false]
              pure (ys, d'.leak)) = .ok ([5], (⟨[], 0, 0⟩, [1, 2, 3, 4, 6])) := by
  rfl

end Toodee
