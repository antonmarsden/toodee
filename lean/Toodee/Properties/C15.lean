import Toodee.Proofs.TranslateLemmas
/-
  C15 — Translate and flip are the stated bijections on cell positions.

  `translate_with_wrap((mc,mr))` with `mc ≤ C`, `mr ≤ R`: new[(c,r)] = old[((c+mc) mod C, (r+mr) mod R)] — as a cell
  permutation of the receiver (`gather buf (v.mapCells …)`), so nothing is lost or duplicated and every position outside
  the view is unchanged; a larger `mid` panics.  `flip_rows`: new[(c,r)] = old[(c,R-1-r)]; `flip_cols`: new[(c,r)] =
  old[(C-1-c,r)].  The fuelled loops of the model never run out of fuel; no `ub`; both build modes.
-/
namespace Toodee
variable {α : Type}

/-- the three cell maps are bijections of the `C x R` rectangle -/
theorem C15_maps_bijective (C R mc mr : Nat) :
    (∀ g ∈ [translateG C R mc mr, flipRowsG R, flipColsG C],
      (∀ c r, c < C → r < R → (g (c, r)).1 < C ∧ (g (c, r)).2 < R) ∧
      (∀ c r c' r', c < C → r < R → c' < C → r' < R → g (c, r) = g (c', r') → (c, r) = (c', r'))) := by
  intro g hg
  simp only [List.mem_cons, List.not_mem_nil, or_false] at hg
  rcases hg with rfl | rfl | rfl
  · exact ⟨translateG_cellMap mc mr, translateG_cellInj⟩
  · exact ⟨flipRowsG_cellMap C, flipRowsG_cellInj⟩
  · exact ⟨flipColsG_cellMap R, flipColsG_cellInj⟩

theorem C15_flip_rows (m : Mode) (v : VW) (buf : List α) (h : v.Inv buf.length) (a : Acc) (ha : a.Of v buf.length) :
    a.flipRows m buf = .ok (gather buf (v.mapCells (flipRowsG v.numRows))) :=
  ha.flipRows_ok h m

theorem C15_flip_cols (v : VW) (buf : List α) (h : v.Inv buf.length) (a : Acc) (ha : a.Of v buf.length) :
    a.flipCols buf = .ok (gather buf (v.mapCells (flipColsG v.numCols))) :=
  ha.flipCols_ok h

/-- a `mid` beyond the size panics (before anything is touched) -/
theorem C15_translate_reject (m : Mode) (a : Acc) (getRowMut : Nat → Res Win) (buf : List α) (mid : Nat × Nat)
    (hbad : ¬ (mid.1 ≤ a.numCols ∧ mid.2 ≤ a.numRows)) :
    a.translateWithWrap m getRowMut buf mid = .error .panic :=
  Acc.translateWithWrap_panic m a getRowMut buf mid hbad

/-- the column-only fast path (`row_mid == 0` after normalisation) -/
theorem C15_translate_cols_only (m : Mode) (v : VW) (buf : List α) (h : v.Inv buf.length) (a : Acc)
    (ha : a.Of v buf.length) (getRowMut : Nat → Res Win) (mid : Nat × Nat)
    (hm : mid.1 ≤ v.numCols) (hr : mid.2 = 0 ∨ mid.2 = v.numRows) :
    a.translateWithWrap m getRowMut buf mid =
      .ok (gather buf (v.mapCells (translateG v.numCols v.numRows mid.1 mid.2))) :=
  (ha.translateWithWrap_eq h m getRowMut mid (fun h0 h1 => by omega)).trans
    (if_pos ⟨hm, by omega⟩)

/-- the general statement; `hget`: the implementor's `get_unchecked_row_mut` returns the row window (`VW.Inv.getUncheckedRow_ok`) -/
theorem C15_translate (m : Mode) (v : VW) (buf : List α) (h : v.Inv buf.length) (a : Acc) (ha : a.Of v buf.length)
    (getRowMut : Nat → Res Win) (hget : ∀ r, r < v.numRows → getRowMut r = .ok (v.rowWin r))
    (mid : Nat × Nat) (hm : mid.1 ≤ v.numCols ∧ mid.2 ≤ v.numRows) :
    a.translateWithWrap m getRowMut buf mid =
      .ok (gather buf (v.mapCells (translateG v.numCols v.numRows mid.1 mid.2))) :=
  (ha.translateWithWrap_eq h m getRowMut mid fun _ _ => hget).trans (if_pos hm)

/-- non-vacuity: flips of a 2x2 window (stride 3, offset 1) of an 8-cell buffer as concrete computations, and the hypotheses
    of `C15_flip_rows` hold for it -/
example : (⟨2, 2, ⟨⟨1, 5⟩, 2, 1⟩⟩ : Acc).flipRows .debug [0, 1, 2, 3, 4, 5, 6, 7] = .ok [0, 4, 5, 3, 1, 2, 6, 7] ∧
    (⟨2, 2, ⟨⟨1, 5⟩, 2, 1⟩⟩ : Acc).flipCols [0, 1, 2, 3, 4, 5, 6, 7] = .ok [0, 2, 1, 3, 5, 4, 6, 7] := ⟨by rfl, by rfl⟩
example : (⟨2, 2, ⟨⟨1, 5⟩, 2, 1⟩⟩ : Acc).flipRows .release [0, 1, 2, 3, 4, 5, 6, 7] =
    .ok (gather [0, 1, 2, 3, 4, 5, 6, 7] ((⟨⟨1, 5⟩, 2, 2, 3⟩ : VW).mapCells (flipRowsG 2))) :=
  C15_flip_rows .release ⟨⟨1, 5⟩, 2, 2, 3⟩ [0, 1, 2, 3, 4, 5, 6, 7]
    ⟨by decide, by decide, by decide, by decide, by decide, by decide⟩ _
    ⟨rfl, rfl, ⟨by decide, by decide, by decide, by decide, by decide⟩, rfl⟩
/-- non-vacuity: `translate_with_wrap((1,1))` of a concrete 3x2 array: new `(c,r)` = old `((c+1) mod 3, (r+1) mod 2)`
    (concrete computation); a `mid` beyond the size panics (`C15_translate_reject`); the hypotheses of `C15_translate`
    (row accessor included) hold -/
example : (TD.acc (⟨[1, 2, 3, 4, 5, 6], 2, 3⟩ : TD Nat)).translateWithWrap .debug (fun r => .ok ⟨r * 3, 3⟩)
      [1, 2, 3, 4, 5, 6] (1, 1) = .ok [5, 6, 4, 2, 3, 1] ∧
    (TD.acc (⟨[1, 2, 3, 4, 5, 6], 2, 3⟩ : TD Nat)).translateWithWrap .debug (fun r => .ok ⟨r * 3, 3⟩)
      [1, 2, 3, 4, 5, 6] (4, 1) = .error .panic :=
  ⟨by rfl, C15_translate_reject .debug _ _ _ (4, 1) (by decide)⟩
example : (TD.acc (⟨[1, 2, 3, 4, 5, 6], 2, 3⟩ : TD Nat)).translateWithWrap .release (fun r => .ok ⟨r * 3, 3⟩)
    [1, 2, 3, 4, 5, 6] (1, 1) = .ok (gather [1, 2, 3, 4, 5, 6]
      ((TD.asView (⟨[1, 2, 3, 4, 5, 6], 2, 3⟩ : TD Nat)).mapCells (translateG 3 2 1 1))) :=
  C15_translate .release (TD.asView (⟨[1, 2, 3, 4, 5, 6], 2, 3⟩ : TD Nat)) [1, 2, 3, 4, 5, 6]
    (TD.Inv.asView ⟨rfl, by decide, by decide⟩) _ (Acc.Of.owned ⟨rfl, by decide, by decide⟩)
    (fun r => .ok ⟨r * 3, 3⟩) (fun r _ => by simp [VW.rowWin, VW.pos, TD.asView, TD.win]) (1, 1) (by decide)

end Toodee
