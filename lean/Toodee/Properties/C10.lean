import Toodee.Proofs.FlatLemmas
/-
  C10 — Cell iterators visit every cell once in row-major order.

  `Cells`/`CellsMut` = `FlattenExact` over `Rows`/`RowsMut`.  A cursor `s` with `Flat.WF s k n` stands for the list
  `s.abs k` of cell positions still to be visited.  Every operation returns what the ideal sequence returns, never panics
  (in particular the `debug_assert!(n < tmp.len())` in `nth`/`nth_back` never fires) or hits `ub`, for every argument
  `< 2^64`, in both build modes; the internal `loop`s terminate within 2 iterations (`fuel ≥ 2`).  `cells()` of an owned
  array or view stands for all `num_cols*num_rows` cell positions in row-major order, each exactly once.

  The hypotheses `j < WORD` and `o.small` are there because the property speaks of arguments up to `usize::MAX`; the proofs
  do not use them.
-/
namespace Toodee
variable {α : Type}

theorem C10_next (s : Flat) (k n : Nat) (h : s.WF k n) (fuel : Nat) (hf : 2 ≤ fuel) :
    ∃ s' k', s.next fuel = .ok ((Seq.next (s.abs k)).1, s') ∧ s'.WF k' n ∧
      s'.abs k' = (Seq.next (s.abs k)).2 :=
  Flat.next_spec h hf

theorem C10_next_back (m : Mode) (s : Flat) (k n : Nat) (h : s.WF k n) (fuel : Nat) (hf : 2 ≤ fuel) :
    ∃ s' k', s.nextBack m fuel = .ok ((Seq.nextBack (s.abs k)).1, s') ∧ s'.WF k' n ∧
      s'.abs k' = (Seq.nextBack (s.abs k)).2 :=
  Flat.nextBack_spec h m hf

theorem C10_nth (m : Mode) (s : Flat) (k n : Nat) (h : s.WF k n) (j : Nat) (hj : j < WORD) :
    ∃ s' k', s.nth m j = .ok ((Seq.nth (s.abs k) j).1, s') ∧ s'.WF k' n ∧
      s'.abs k' = (Seq.nth (s.abs k) j).2 :=
  have _ := hj; Flat.nth_spec h m j

theorem C10_nth_back (m : Mode) (s : Flat) (k n : Nat) (h : s.WF k n) (j : Nat) (hj : j < WORD) :
    ∃ s' k', s.nthBack m j = .ok ((Seq.nthBack (s.abs k) j).1, s') ∧ s'.WF k' n ∧
      s'.abs k' = (Seq.nthBack (s.abs k) j).2 :=
  have _ := hj; Flat.nthBack_spec h m j

/-- `len()` / `size_hint()` (and `count()`, which folds) -/
theorem C10_len (m : Mode) (s : Flat) (k n : Nat) (h : s.WF k n) : s.sizeHint m = .ok (s.abs k).length :=
  Flat.sizeHint_spec h m

theorem C10_last (m : Mode) (s : Flat) (k n : Nat) (h : s.WF k n) (fuel : Nat) (hf : 2 ≤ fuel) :
    s.last m fuel = .ok (Seq.last (s.abs k)) :=
  Flat.last_spec h m hf

theorem C10_fold (s : Flat) (k n : Nat) (h : s.WF k n) (fuel : Nat) (hf : k < fuel) :
    s.collect fuel = .ok (s.abs k) :=
  Flat.collect_spec h fuel hf

theorem C10_rfold (m : Mode) (s : Flat) (k n : Nat) (h : s.WF k n) (fuel : Nat) (hf : k < fuel) :
    s.collectBack m fuel = .ok (s.abs k).reverse :=
  Flat.collectBack_spec h m fuel hf

/-- any interleaving of `next`, `next_back`, `nth`, `nth_back`, `len` -/
theorem C10_word (m : Mode) (s : Flat) (k n : Nat) (h : s.WF k n) (fuel : Nat) (hf : 2 ≤ fuel)
    (w : List Seq.Op) (hw : ∀ o ∈ w, o.small) :
    ∃ s' k', s.run m fuel w = .ok ((Seq.run (s.abs k) w).1, s') ∧ s'.WF k' n ∧
      s'.abs k' = (Seq.run (s.abs k) w).2 :=
  have _ := hw; Flat.run_spec h m hf w

/-- `cells()` / `cells_mut()` / `IntoIterator` of an owned array: all positions `0 .. C*R` in order -/
theorem C10_cells_owned (t : TD α) (h : t.Inv) :
    (Flat.new t.rows).WF t.numRows t.data.length ∧
    (Flat.new t.rows).abs t.numRows = List.range t.data.length ∧
    (Flat.new t.rows).abs t.numRows =
      ((List.range t.numRows).map fun r => (List.range t.numCols).map fun c => t.pos c r).flatten := by
  have ⟨hwf, habs⟩ := h.rows_cursor
  have e1 := Flat.new_abs_of_rows habs
  refine ⟨Flat.new_WF hwf, ?_, e1⟩
  rw [e1, h.len, Nat.mul_comm]
  exact flatten_range_mul _ _

/-- `cells()` / `cells_mut()` of a view: the positions of all its cells, row-major, each exactly once -/
theorem C10_cells_view (m : Mode) (v : VW) (n : Nat) (h : v.Inv n) :
    ∃ it, v.rows m = .ok it ∧ (Flat.new it).WF v.numRows n ∧
      (Flat.new it).abs v.numRows =
        ((List.range v.numRows).map fun r => (List.range v.numCols).map fun c => v.pos c r).flatten ∧
      ((Flat.new it).abs v.numRows).Nodup ∧ ((Flat.new it).abs v.numRows).length = v.numCols * v.numRows := by
  have ⟨hwf, habs⟩ := h.rows_cursor
  have e1 := Flat.new_abs_of_rows habs
  refine ⟨_, VW.rows_ok m h.stride, Flat.new_WF hwf, e1, ?_, ?_⟩
  · rw [e1]
    exact List.Pairwise.imp Nat.ne_of_lt (flatten_range_sorted _ _ _ _ h.stride)
  · rw [Flat.abs_length (s := Flat.new _) hwf]
    exact (Nat.zero_add _).trans (Nat.mul_comm _ _)

/-- non-vacuity of `C10_cells_owned`: the fresh `cells()` cursor of a concrete 3x2 array is well-formed and stands for the
    positions `0..6` -/
example : (Flat.new (TD.rows (⟨[1, 2, 3, 4, 5, 6], 2, 3⟩ : TD Nat))).WF 2 6 ∧
    (Flat.new (TD.rows (⟨[1, 2, 3, 4, 5, 6], 2, 3⟩ : TD Nat))).abs 2 = [0, 1, 2, 3, 4, 5] := by
  obtain ⟨h1, h2, _⟩ := C10_cells_owned (⟨[1, 2, 3, 4, 5, 6], 2, 3⟩ : TD Nat) ⟨rfl, by decide, by decide⟩
  exact ⟨h1, h2⟩
/-- non-vacuity: collecting it, and one `next` (which opens the first row), as concrete computations -/
example : (Flat.new (TD.rows (⟨[1, 2, 3, 4, 5, 6], 2, 3⟩ : TD Nat))).collect 5 = .ok [0, 1, 2, 3, 4, 5] := by rfl
example : (Flat.new (TD.rows (⟨[1, 2, 3, 4, 5, 6], 2, 3⟩ : TD Nat))).next 2 =
    .ok (some 0, ⟨⟨⟨3, 3⟩, 3, 0⟩, some ⟨1, 2⟩, none⟩) := by rfl
/-- non-vacuity of `C10_cells_view`: `cells()` of a 2x2 window (stride 3, offset 1) of an 8-cell buffer visits 1, 2, 4, 5 -/
example : ∃ it, VW.rows .debug ⟨⟨1, 5⟩, 2, 2, 3⟩ = .ok it ∧ (Flat.new it).abs 2 = [1, 2, 4, 5] := by
  obtain ⟨it, h1, _, h3, _⟩ := C10_cells_view .debug ⟨⟨1, 5⟩, 2, 2, 3⟩ 8
    ⟨by decide, by decide, by decide, by decide, by decide, by decide⟩
  exact ⟨it, h1, h3⟩

end Toodee
