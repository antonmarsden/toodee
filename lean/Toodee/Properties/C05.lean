import Toodee.Proofs.HistoryLemmas
/-
  C05 — Every element is dropped exactly once (the accounting law).

  Ownership is by position: the array owns exactly the cells `data[0..len)`.  For every operation the multiset of elements is
  conserved: what the array owns afterwards, plus what was handed to the caller, plus what the crate dropped, is exactly what
  the array owned before plus what was supplied — a `List.Perm`, for an arbitrary element type; instantiating elements with
  unique ids turns it into "exactly once": the general lemma `C05_exactly_once` shows that the parts of a permutation of a
  duplicate-free list are pairwise disjoint (never twice, never while still reachable).
  The laws for insert / remove are corollaries of the refinement theorems C06 / C07; in-place permutations (swap, sort,
  translate, flips) conserve the buffer outright; overwrites (fill, copies, indexed writes) drop exactly the replaced cells.
  That Rust runs `Drop` where the model says is established on explored histories by the harness's ledger (partial, stated).

  The theorems, by clause:
  * one call, stated on the operation: `C05_insert_row`, `C05_insert_col`, `C05_remove_row`, `C05_remove_col`,
    `C05_perm_conserves`, `C05_upd_length`, `C05_overwrite_conserves`; `C05_exactly_once` is the list fact behind "exactly once";
  * one call of a history, stated on its flow (`hflow`: supplied, handed to the caller, dropped, LEAKED): `C05_step_conserves` (the
    per-operation laws above are its instances for `.insertRow i (honest xs) spare`, `.removeRow i []`, …), `C05_step_no_leak`
    (nothing is leaked by a call that is `HOp.honest`: no caller code panics, no iterator lies, no drain is forgotten);
  * any history (`hflowRun`; fields of `hrun_ok`, Proofs/HistoryLemmas): `C05_history_conserves`, `C05_history_no_leak`,
    `C05_history_all_accounted` (dropping the array at the end is modelled as a final `.clear`), `C05_history_exactly_once`.
  Not proved here: anything about an element that a dishonest call leaks beyond its being counted in `leaked`; "exactly once"
  without the hypothesis that the elements are pairwise distinct (`Nodup`); that Rust's `Drop` runs where the flow says (harness).
-/
namespace Toodee
variable {α : Type}

/-- parts of a permutation of a duplicate-free list share no element -/
theorem C05_exactly_once (a b l : List α) (hp : (a ++ b).Perm l) (hn : l.Nodup) :
    a.Nodup ∧ b.Nodup ∧ ∀ x, x ∈ a → x ∉ b := by
  have h := (hp.nodup_iff).2 hn
  rw [List.nodup_append] at h
  exact ⟨h.1, h.2.1, fun x hx hb => h.2.2 x hx x hb rfl⟩

/-- `insert_row` with an honest script: the new buffer is the old cells and the items (the flow law `C05_step_conserves` for
    `.insertRow i (honest xs) spare`, read on the operation) -/
theorem C05_insert_row (m : Mode) (cap : Nat) (t : TD α) (h : t.Inv) (i : Nat) (xs spare : List α)
    (hi : i ≤ t.numRows) (hlen : t.numRows = 0 ∨ xs.length = t.numCols)
    (hcap : t.data.length + xs.length ≤ cap) (hsp : xs.length ≤ spare.length)
    (hword : t.data.length + xs.length < WORD) :
    (t.insertRow m cap i (honest xs) spare).t.data.Perm (t.data ++ xs) := by
  have _ := hword   -- not needed
  rw [h.insertRow_honest m cap i xs spare hi hlen hcap hsp]
  show (t.grid.insertIdx i xs).flatten.Perm (t.data ++ xs)
  rw [(h.grid_insertIdx hi xs hlen).2.1]
  have h1 := perm_append_right_comm (t.data.take (i * t.numCols)) xs (t.data.drop (i * t.numCols))
  rw [List.take_append_drop] at h1
  exact h1

/-- `insert_col` with an honest script: the new buffer is the old cells and the items -/
theorem C05_insert_col (m : Mode) (cap : Nat) (t : TD α) (h : t.Inv) (i : Nat) (xs spare : List α)
    (hi : i ≤ t.numCols) (hlen : t.numCols = 0 ∨ xs.length = t.numRows)
    (hcap : t.data.length + xs.length ≤ cap) (hsp : xs.length ≤ spare.length)
    (hword : t.data.length + xs.length < WORD) :
    (t.insertCol m cap i (honest xs) spare).t.data.Perm (t.data ++ xs) := by
  rw [h.insertCol_honest m cap i xs spare hi hlen hcap hsp hword]
  exact (h.rowsForCol_insAt i hlen xs rfl).2.1

/-- `remove_row`: kept cells + the drained row (whether yielded to the caller or dropped with the drain) = the old cells -/
theorem C05_remove_row (m : Mode) (t : TD α) (h : t.Inv) (i : Nat) (hi : i < t.numRows)
    (d : DrainRow α) (hd : t.removeRow m i = .ok d) :
    (d.drop.1.data ++ d.items).Perm t.data := by
  have he := h.removeRow_ok m hi
  rw [hd] at he
  injection he with hdd
  subst hdd
  show (t.data.take (i * t.numCols) ++ t.data.drop (i * t.numCols + t.numCols)
    ++ (t.data.drop (i * t.numCols)).take t.numCols).Perm t.data
  have hs := take_mid_drop t.data (i * t.numCols) t.numCols
  conv => rhs; rw [hs]
  exact perm_append_right_comm _ _ _

/-- `remove_col`: kept cells + the column's cells = the old cells -/
theorem C05_remove_col (t : TD α) (h : t.Inv) (i : Nat) (hi : i < t.numCols) :
    ((t.grid.map fun ρ => ρ.eraseIdx i).flatten ++ (List.range t.numRows).filterMap (fun r => t.data[t.pos i r]?)).Perm t.data :=
  h.eraseCol_perm hi

/-- a cell permutation of a view conserves the whole buffer -/
theorem C05_perm_conserves (v : VW) (buf : List α) (h : v.Inv buf.length) (g : Nat × Nat → Nat × Nat)
    (hg : ∀ c r, c < v.numCols → r < v.numRows → (g (c, r)).1 < v.numCols ∧ (g (c, r)).2 < v.numRows)
    (hinj : ∀ c r c' r', c < v.numCols → r < v.numRows → c' < v.numCols → r' < v.numRows →
      g (c, r) = g (c', r') → (c, r) = (c', r')) :
    (gather buf (v.mapCells g)).Perm buf :=
  h.gather_mapCells_perm g hg hinj

/-- an overwrite keeps the buffer's length: one old cell leaves (is dropped) for each new cell that enters -/
theorem C05_upd_length (v : VW) (buf : List α) (f : Nat × Nat → Option α) :
    (v.updCells buf f).length = buf.length :=
  VW.updCells_length v buf f

/-- an overwrite of cells of an owned array conserves elements: the new buffer plus the replaced cells are the old buffer plus the
    written values -/
theorem C05_overwrite_conserves (t : TD α) (h : t.Inv) (f : Nat × Nat → Option α) :
    (t.asView.updCells t.data f ++ t.overwritten f).Perm (t.data ++ t.written f) := by
  have _ := h   -- not needed
  exact t.asView.updCells_perm t.data f

/-- **one call conserves elements**: what the array owns afterwards, plus what was handed to the caller, plus what the crate
    dropped, plus what was leaked, is exactly what the array owned before plus what the call took from the caller -/
theorem C05_step_conserves (e : HEnv) (he : e.ok) (t : TD α) (h : t.Inv) (op : HOp α) (hop : op.wf) :
    ((hstep e t op).data ++ (hflow e t op).handed ++ (hflow e t op).dropped ++ (hflow e t op).leaked).Perm
      (t.data ++ (hflow e t op).supplied) :=
  (hstep_ok e h he op hop).flow.perm

/-- **any history conserves elements** -/
theorem C05_history_conserves (e : HEnv) (he : e.ok) (t : TD α) (h : t.Inv) (ops : List (HOp α)) (hops : ∀ op ∈ ops, op.wf) :
    ((hrun e t ops).data ++ (hflowRun e t ops).handed ++ (hflowRun e t ops).dropped ++ (hflowRun e t ops).leaked).Perm
      (t.data ++ (hflowRun e t ops).supplied) :=
  (hrun_ok e h he ops hops).flow.perm

/-- a call during which no caller code panics, no iterator lies and nothing is forgotten leaks nothing -/
theorem C05_step_no_leak (e : HEnv) (he : e.ok) (t : TD α) (h : t.Inv) (op : HOp α) (hop : op.wf) (hon : op.honest) :
    (hflow e t op).leaked = [] :=
  (hstep_ok e h he op hop).leak hon

/-- a history of honest calls leaks nothing -/
theorem C05_history_no_leak (e : HEnv) (he : e.ok) (t : TD α) (h : t.Inv) (ops : List (HOp α)) (hops : ∀ op ∈ ops, op.wf)
    (hon : ∀ op ∈ ops, op.honest) :
    (hflowRun e t ops).leaked = [] :=
  (hrun_ok e h he ops hops).leak hon

/-- **the second sentence of the property**: after a history in which nothing panics and nothing is leaked, once the array is
    dropped (`clear` drops the same cells) no element is left undropped: everything the array ever held or was given has been
    dropped by the crate or handed to the caller — each exactly once (a permutation) -/
theorem C05_history_all_accounted (e : HEnv) (he : e.ok) (t : TD α) (h : t.Inv) (ops : List (HOp α)) (hops : ∀ op ∈ ops, op.wf)
    (hon : ∀ op ∈ ops, op.honest) :
    ((hflowRun e t (ops ++ [.clear])).handed ++ (hflowRun e t (ops ++ [.clear])).dropped).Perm
      (t.data ++ (hflowRun e t (ops ++ [.clear])).supplied) := by
  have hcat : ∀ P : HOp α → Prop, (∀ op ∈ ops, P op) → P .clear → ∀ op ∈ ops ++ [.clear], P op :=
    fun P hP hc op hm => (List.mem_append.1 hm).elim (hP op) fun h1 => List.mem_singleton.1 h1 ▸ hc
  have hops' := hcat _ hops trivial
  have hon' := hcat _ hon trivial
  have hc := C05_history_conserves e he t h _ hops'
  have hl := C05_history_no_leak e he t h _ hops' hon'
  have hd : (hrun e t (ops ++ [.clear])).data = [] := by rw [hrun_append]; rfl
  rw [hd, hl, List.append_nil, List.nil_append] at hc
  exact hc

/-- with unique element identities: along any history no element is both still in the array and already handed out / dropped /
    leaked, and none is handed out, dropped or leaked twice -/
theorem C05_history_exactly_once (e : HEnv) (he : e.ok) (t : TD α) (h : t.Inv) (ops : List (HOp α)) (hops : ∀ op ∈ ops, op.wf)
    (hnd : (t.data ++ (hflowRun e t ops).supplied).Nodup) :
    ((hrun e t ops).data ++ (hflowRun e t ops).handed ++ (hflowRun e t ops).dropped ++ (hflowRun e t ops).leaked).Nodup :=
  ((C05_history_conserves e he t h ops hops).nodup_iff).2 hnd

/-- non-vacuity: a concrete history with its flow -/
example :
    let e : HEnv := ⟨.release, 1000, 1000⟩
    let ops : List (HOp Nat) :=
      [.insertRow 0 (honest [1, 2, 3]) [0, 0, 0], .insertRow 1 (honest [4, 5, 6]) [0, 0, 0], .removeCol 1 [true],
       .inplace (.set 0 0 9), .takeInto 1]
    hflowRun e (TD.default : TD Nat) ops = ⟨[1, 2, 3, 4, 5, 6, 9], [2, 9], [5, 1, 3, 4, 6], []⟩ := by
  rfl

end Toodee
