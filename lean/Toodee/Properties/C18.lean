import Toodee.Proofs.SerdeLemmas
import Toodee.Properties.C10
import Toodee.Proofs.GridLemmas
/-
  C18 — Serialisation round-trips every array.

  Over the abstract document model (`serde`/`serde_json` tokenisation assumed; the four transports present the same value
  tree to the visitor): for every owned array with the shape invariant and every element codec that round-trips,
  deserialising the serialised array gives back exactly that array; serialising a view (dimensions + its cells in row-major
  order) and deserialising gives the owned copy of the view.
-/
namespace Toodee
variable {α : Type}

/-- `serde::Serialize` then `Deserialize` of an owned array (derived: `data`, `num_rows`, `num_cols`) gives the array back, for every
    element codec that round-trips -/
theorem C18_roundtrip_owned (enc : α → JVal) (dec : JVal → Option α) (hcodec : ∀ x, dec (enc x) = some x)
    (t : TD α) (h : t.Inv) :
    deserialize dec (serializeOwned enc t) = .ok t :=
  -- the derive writes data, num_rows, num_cols: the three entries of `deserialize_ok` in reverse
  deserialize_ok (List.reverse_perm [_, _, _]) (decVec_arr_enc enc dec hcodec)
    h.len.symm (h.len ▸ h.word) h.zero

/-- a view with `C x R` cells (`cells` = its cells in row-major order, `C = 0 ↔ R = 0`) round-trips to the owned copy -/
theorem C18_roundtrip_view (enc : α → JVal) (dec : JVal → Option α) (hcodec : ∀ x, dec (enc x) = some x)
    (C R : Nat) (cells : List α) (hlen : cells.length = C * R) (hz : C = 0 ↔ R = 0) (hw : C * R < WORD) :
    deserialize dec (serializeView enc C R cells) = .ok ⟨cells, R, C⟩ :=
  deserialize_ok (.refl _) (decVec_arr_enc enc dec hcodec) hlen.symm hw hz

/-- **serialising a view as the crate does it** (`VW.serialize`: dimensions, then the `cells()` cursor collected) **and
    deserialising gives the owned copy of that view** (`TooDee::from(view)`, `VW.toOwned`: the window's `VW.grid` flattened,
    `VW.Inv.toOwned_ok`; cell by cell in C20_from_view) — for every window of every buffer, in both modes -/
theorem C18_roundtrip_view_cells (m : Mode) (cap : Nat) (enc : α → JVal) (dec : JVal → Option α) (hcodec : ∀ x, dec (enc x) = some x)
    (v : VW) (buf : List α) (h : v.Inv buf.length) (hcap : buf.length ≤ cap) :
    ∃ doc t, v.serialize m enc buf = .ok doc ∧ v.toOwned m cap buf = .ok t ∧ deserialize dec doc = .ok t := by
  obtain ⟨it, hrows, hWF, habs, _, _⟩ := C10_cells_view m v buf.length h
  -- the model's `VW.serialize` gives its fuelled `collect` `len + 3` steps; more than the `numRows ≤ len` rows is all that is needed
  have hfuel : v.numRows < it.v.len + 3 := Nat.lt_add_right 2 (Nat.lt_succ_of_le hWF.rows.le_len)
  refine ⟨serializeView enc v.numCols v.numRows (v.grid buf).flatten, _, ?_,
    h.toOwned_ok m (Nat.le_trans h.area_le_buf hcap),
    C18_roundtrip_view enc dec hcodec _ _ _ (h.grid_flatten_length) h.zero h.area_word⟩
  -- what the `cells()` cursor collects (`C10_fold`, `habs`: the positions row by row) reads the cells of `v.grid buf`, row by row
  simp only [VW.serialize, hrows, ok_bind, C10_fold _ _ _ hWF _ hfuel, habs, List.filterMap_flatten, List.map_map,
    Function.comp_def, List.filterMap_map, pure_eq]
  rfl

/-- the element codec used by the non-vacuity examples: natural-number literals -/
private def encNat : Nat → JVal := JVal.num
private def decNat : JVal → Option Nat
  | .num n => some n
  | _ => none

/-- non-vacuity: a 2x2 owned array has the invariant and round-trips (as a concrete computation and via the theorem) -/
example : deserialize decNat (serializeOwned encNat ⟨[1, 2, 3, 4], 2, 2⟩) = .ok ⟨[1, 2, 3, 4], 2, 2⟩ := rfl
example : deserialize decNat (serializeOwned encNat ⟨[1, 2, 3, 4], 2, 2⟩) = .ok ⟨[1, 2, 3, 4], 2, 2⟩ :=
  C18_roundtrip_owned encNat decNat (fun _ => rfl) _ ⟨rfl, by decide, by decide⟩
/-- non-vacuity: a 3-column, 2-row view and the empty view round-trip to their owned copies -/
example : deserialize decNat (serializeView encNat 3 2 [1, 2, 3, 4, 5, 6]) = .ok ⟨[1, 2, 3, 4, 5, 6], 2, 3⟩ :=
  C18_roundtrip_view encNat decNat (fun _ => rfl) 3 2 _ rfl (by decide) (by decide)
example : deserialize decNat (serializeView encNat 0 0 []) = .ok ⟨[], 0, 0⟩ := rfl
/-- non-vacuity: serialising a 2x2 window (stride 3, offset 1) of an 8-cell buffer as the crate does it (concrete
    computation), and `C18_roundtrip_view_cells` applied to it -/
example : VW.serialize .debug encNat ⟨⟨1, 5⟩, 2, 2, 3⟩ [0, 1, 2, 3, 4, 5, 6, 7] =
    .ok (serializeView encNat 2 2 [1, 2, 4, 5]) := by rfl
example : ∃ doc t, VW.serialize .release encNat ⟨⟨1, 5⟩, 2, 2, 3⟩ [0, 1, 2, 3, 4, 5, 6, 7] = .ok doc ∧
    VW.toOwned .release 100 ⟨⟨1, 5⟩, 2, 2, 3⟩ [0, 1, 2, 3, 4, 5, 6, 7] = .ok t ∧ deserialize decNat doc = .ok t :=
  C18_roundtrip_view_cells .release 100 encNat decNat (fun _ => rfl) ⟨⟨1, 5⟩, 2, 2, 3⟩ [0, 1, 2, 3, 4, 5, 6, 7]
    ⟨by decide, by decide, by decide, by decide, by decide, by decide⟩ (by decide)

end Toodee
