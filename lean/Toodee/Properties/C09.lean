import Toodee.Proofs.IterLemmas
/-
  C09 — Column iterators behave as an ideal double-ended exact-size indexable sequence.
  Same simulation as C08 for `Col`/`ColMut`; items are cell positions.  `col(c)` with `c` out of range panics.

  The hypotheses `j < WORD`, `i < WORD`, `c < WORD` and `o.small` are there because the property speaks of arguments up to
  `usize::MAX`; the proofs do not use them.
  Every theorem is a citation of IterLemmas; beyond the C08 list there are `C09_index` (`col[i]`, which panics from `len` on, also
  when the product wraps) and `C09_col_distinct` (the positions handed out are distinct and inside the buffer).
-/
namespace Toodee
variable {α : Type}

theorem C09_next (it : Col) (k n : Nat) (h : it.WF k n) :
    ∃ it', it.next = .ok ((Seq.next (it.abs k)).1, it') ∧ it'.WF (k - 1) n ∧
      it'.abs (k - 1) = (Seq.next (it.abs k)).2 :=
  Col.next_spec h

theorem C09_next_back (m : Mode) (it : Col) (k n : Nat) (h : it.WF k n) :
    ∃ it', it.nextBack m = .ok ((Seq.nextBack (it.abs k)).1, it') ∧ it'.WF (k - 1) n ∧
      it'.abs (k - 1) = (Seq.nextBack (it.abs k)).2 :=
  Col.nextBack_spec h m

theorem C09_nth (m : Mode) (it : Col) (k n : Nat) (h : it.WF k n) (j : Nat) (hj : j < WORD) :
    ∃ it', it.nth m j = .ok ((Seq.nth (it.abs k) j).1, it') ∧ it'.WF (k - (j + 1)) n ∧
      it'.abs (k - (j + 1)) = (Seq.nth (it.abs k) j).2 :=
  have _ := hj; Col.nth_spec h m j

theorem C09_nth_back (m : Mode) (it : Col) (k n : Nat) (h : it.WF k n) (j : Nat) (hj : j < WORD) :
    ∃ it', it.nthBack m j = .ok ((Seq.nthBack (it.abs k) j).1, it') ∧ it'.WF (k - (j + 1)) n ∧
      it'.abs (k - (j + 1)) = (Seq.nthBack (it.abs k) j).2 :=
  have _ := hj; Col.nthBack_spec h m j

theorem C09_len (m : Mode) (it : Col) (k n : Nat) (h : it.WF k n) : it.sizeHint m = .ok k :=
  Col.sizeHint_spec h m

theorem C09_last (m : Mode) (it : Col) (k n : Nat) (h : it.WF k n) :
    it.last m = .ok (Seq.last (it.abs k)) :=
  Col.last_spec h m

theorem C09_fold (it : Col) (k n : Nat) (h : it.WF k n) (fuel : Nat) (hf : k < fuel) :
    it.collect fuel = .ok (it.abs k) :=
  Col.collect_spec h fuel hf

theorem C09_rfold (m : Mode) (it : Col) (k n : Nat) (h : it.WF k n) (fuel : Nat) (hf : k < fuel) :
    it.collectBack m fuel = .ok (it.abs k).reverse :=
  Col.collectBack_spec h m fuel hf

/-- indexing: `col[i]` is the `i`-th remaining cell, and panics for `i ≥ len` — also when `i*(1+skip)` wraps -/
theorem C09_index (m : Mode) (it : Col) (k n : Nat) (h : it.WF k n) (i : Nat) (hi : i < WORD) :
    (i < k → it.index m i = .ok (it.v.off + i * (1 + it.skip)) ∧ (it.abs k)[i]? = some (it.v.off + i * (1 + it.skip))) ∧
    (¬ i < k → it.index m i = .error .panic) := by
  have _ := hi
  refine ⟨fun hlt => ⟨Col.index_ok h m hlt, ?_⟩, fun hge => Col.index_panic h m (Nat.le_of_not_lt hge)⟩
  rw [Col.abs_getElem?, if_pos hlt]

theorem C09_word (m : Mode) (it : Col) (k n : Nat) (h : it.WF k n) (w : List Seq.Op)
    (hw : ∀ o ∈ w, o.small) :
    ∃ it' k', it.run m w = .ok ((Seq.run (it.abs k) w).1, it') ∧ it'.WF k' n ∧
      it'.abs k' = (Seq.run (it.abs k) w).2 :=
  have _ := hw; Col.run_spec h m w

/-- `col(c)` / `col_mut(c)` of an owned array: in range gives the column's cells top to bottom; out of range panics -/
theorem C09_col_owned (m : Mode) (t : TD α) (h : t.Inv) (c : Nat) (hc : c < WORD) :
    (c < t.numCols → ∃ it, t.col m c = .ok it ∧ it.WF t.numRows t.data.length ∧
        it.abs t.numRows = (List.range t.numRows).map fun r => t.pos c r) ∧
    (¬ c < t.numCols → t.col m c = .error .panic) :=
  have _ := hc; ⟨h.col_spec m c, fun hn => TD.col_panic m t c (Nat.not_lt.1 hn)⟩

/-- `col(c)` / `col_mut(c)` of a view -/
theorem C09_col_view (m : Mode) (v : VW) (n : Nat) (h : v.Inv n) (c : Nat) (hc : c < WORD) :
    (c < v.numCols → ∃ it, v.col m c = .ok it ∧ it.WF v.numRows n ∧
        it.abs v.numRows = (List.range v.numRows).map fun r => v.pos c r) ∧
    (¬ c < v.numCols → v.col m c = .error .panic) :=
  have _ := hc; ⟨h.col_spec m c, fun hn => VW.col_panic m v c (Nat.not_lt.1 hn)⟩

/-- the cells handed out by `col_mut` are distinct positions inside the buffer -/
theorem C09_col_distinct (it : Col) (k n : Nat) (h : it.WF k n) :
    (it.abs k).Nodup ∧ ∀ p ∈ it.abs k, p < n :=
  ⟨Col.abs_nodup it k, h.abs_inside⟩

/-- non-vacuity: column 1 of a concrete 3x2 array is a well-formed cursor over positions 1 and 4 -/
example : TD.col .debug (⟨[1, 2, 3, 4, 5, 6], 2, 3⟩ : TD Nat) 1 = .ok ⟨⟨1, 4⟩, 2⟩ := by rfl
example : (⟨⟨1, 4⟩, 2⟩ : Col).WF 2 6 ∧ (⟨⟨1, 4⟩, 2⟩ : Col).abs 2 = [1, 4] :=
  ⟨⟨by decide, by decide, by decide, by decide⟩, by decide⟩
/-- non-vacuity of `C09_index`: on that cursor `col[1]` is position 4 and `col[2]` panics -/
example : (⟨⟨1, 4⟩, 2⟩ : Col).index .release 1 = .ok 4 ∧ (⟨⟨1, 4⟩, 2⟩ : Col).index .release 2 = .error .panic :=
  have h : (⟨⟨1, 4⟩, 2⟩ : Col).WF 2 6 := ⟨by decide, by decide, by decide, by decide⟩
  ⟨((C09_index .release _ 2 6 h 1 (by decide)).1 (by decide)).1, (C09_index .release _ 2 6 h 2 (by decide)).2 (by decide)⟩
/-- non-vacuity of `C09_col_owned`: an out-of-range column panics -/
example : TD.col .release (⟨[1, 2, 3, 4, 5, 6], 2, 3⟩ : TD Nat) 3 = .error .panic :=
  (C09_col_owned .release _ ⟨rfl, by decide, by decide⟩ 3 (by decide)).2 (by decide)

end Toodee
