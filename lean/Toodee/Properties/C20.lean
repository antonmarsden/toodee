import Toodee.Proofs.DerivedTraits
import Toodee.Proofs.GridLemmas
/-
  C20 — Constructors and conversions preserve contents and reject bad shapes.

  `new`, `init`, `from_vec`/`from_box`, `TooDeeView::new`, `TooDeeViewMut::new`: accepted **iff** the zero rule holds,
  the product of the dimensions fits a `usize` and the buffer fits (`=` for `from_vec`, `≤` for the slice views);
  otherwise `panic` (never `ub`).  On acceptance: exactly the stated dimensions, the invariant, cells in row-major order.
  Equality / hashing are the derived field-wise ones.

  Theorem by clause.  `C20_new`, `C20_init`, `C20_from_vec`, `C20_view_new`: the constructors, read off their equations in Index.lean
  (`new` / `init` also reject what a `Vec` cannot hold).  `C20_default`: `default()`, `with_capacity`.  `C20_eq_derived`, `C20_eq_iff`,
  `C20_hash_eq`: the derived `==` cell by cell, for a lawful element equality, and `Hash` agreeing with it.  `C20_clone`, `C20_clone_from`:
  cell-wise clones, shape kept, untouched on a panicking element clone.  `C20_into`: the three by-value conversions are the row-major cell
  list.  `C20_from_view`: `TooDee::from(view)` holds the window's cells.
  Not proved, because the model has it by construction: that a clone shares nothing with its original (values, no aliasing), and how the
  by-value iterator behaves (`intoIter` is the list of items; the cursor of `vec::IntoIter` is not modelled).
-/
namespace Toodee
variable {α : Type}

/-- `TooDee::new(c, r)`: accepted iff `shapeOk` and a `Vec<T>` can hold `c*r` elements (`cap` = the capacity limit of the
    element type, `allocOk`); then dimensions `(c,r)`, invariant, every cell the default value.  Otherwise `panic`. -/
theorem C20_new (cap c r : Nat) (d : α) :
    (shapeOk c r ∧ c * r ≤ cap → ∃ t, TD.new cap c r d = .ok t ∧ t.Inv ∧ t.numCols = c ∧ t.numRows = r ∧
        t.data = List.replicate (c * r) d) ∧
    (¬ (shapeOk c r ∧ c * r ≤ cap) → TD.new cap c r d = .error .panic) := by
  rw [TD.new_eq]
  exact ⟨fun h => ⟨_, if_pos h, .of_shape h.1 List.length_replicate, rfl, rfl, rfl⟩, fun h => if_neg h⟩

/-- `TooDee::init(c, r, v)`: as `new` with every cell `v` (the two bodies differ only in the order of the checked product) -/
theorem C20_init (cap c r : Nat) (v : α) :
    (shapeOk c r ∧ c * r ≤ cap → ∃ t, TD.init cap c r v = .ok t ∧ t.Inv ∧ t.numCols = c ∧ t.numRows = r ∧
        t.data = List.replicate (c * r) v) ∧
    (¬ (shapeOk c r ∧ c * r ≤ cap) → TD.init cap c r v = .error .panic) := by
  rw [TD.init_eq_new]
  exact C20_new cap c r v

/-- `TooDee::from_vec(c, r, v)` and `from_box`: additionally the buffer length must equal the product. -/
theorem C20_from_vec (c r : Nat) (v : List α) :
    (shapeOk c r ∧ c * r = v.length → ∃ t, TD.fromVec c r v = .ok t ∧ t.Inv ∧ t.numCols = c ∧ t.numRows = r ∧ t.data = v) ∧
    (¬ (shapeOk c r ∧ c * r = v.length) → TD.fromVec c r v = .error .panic) := by
  rw [TD.fromVec_eq]
  exact ⟨fun h => ⟨_, if_pos h, .of_shape h.1 h.2.symm, rfl, rfl, rfl⟩, fun h => if_neg h⟩

/-- `TooDeeView::new(c, r, slice)` / `TooDeeViewMut::new`: accepted iff `shapeOk` and the product fits the slice; the view
    then has stride `c`, starts where the slice starts, satisfies the view invariant, and its cell `(col,row)` is the
    slice's cell `row*c + col` (row-major prefix of the slice). -/
theorem C20_view_new (c r : Nat) (slice : Win) (n : Nat) (hn : slice.off + slice.len ≤ n) (hw : n < WORD) :
    (shapeOk c r ∧ c * r ≤ slice.len →
      ∃ v, VW.newShared c r slice = .ok v ∧ VW.newMut c r slice = .ok v ∧ v.Inv n ∧ v.numCols = c ∧ v.numRows = r ∧
        ∀ col row, v.pos col row = slice.off + (row * c + col)) ∧
    (¬ (shapeOk c r ∧ c * r ≤ slice.len) →
      VW.newShared c r slice = .error .panic ∧ VW.newMut c r slice = .error .panic) := by
  rw [VW.newMut_eq, VW.newShared_eq]
  exact ⟨fun h => ⟨_, if_pos h, if_pos h, .full_width h.1.1 (Nat.le_trans (Nat.add_le_add_left h.2 _) hn) hw, rfl, rfl,
    fun col row => Nat.add_assoc ..⟩, fun h => ⟨if_neg h, if_neg h⟩⟩

/-- `default()` and `with_capacity(n)` give the empty array `(0,0)`, which satisfies the invariant. -/
theorem C20_default : (TD.default : TD α).Inv ∧
    ∀ cap n, (TD.withCapacity cap n : Res (TD α)) = if n ≤ cap then .ok TD.default else .error .panic := by
  refine ⟨TD.Inv.nil, fun cap n => ?_⟩
  by_cases h : n ≤ cap <;> simp [TD.withCapacity, allocOk, h, TD.default]

/-- `==` (`#[derive(PartialEq)]`, `TD.eqDerived`) for arrays satisfying the shape invariant: true exactly when the dimensions are
    equal and every cell compares equal under the element type's `==` -/
theorem C20_eq_derived (eqα : α → α → Bool) (a b : TD α) (ha : a.Inv) (hb : b.Inv) :
    TD.eqDerived eqα a b = true ↔
      (a.numCols = b.numCols ∧ a.numRows = b.numRows ∧
        ∀ c r, c < a.numCols → r < a.numRows → ∃ x y, a.data[a.pos c r]? = some x ∧ b.data[b.pos c r]? = some y ∧ eqα x y = true) := by
  unfold TD.eqDerived
  rw [Bool.and_eq_true, Bool.and_eq_true, TD.sliceEq_iff, beq_iff_eq, beq_iff_eq, ha.len]
  simp only [TD.pos]
  constructor
  · rintro ⟨⟨⟨_, hi⟩, hR⟩, hC⟩
    exact ⟨hC, hR, fun c r hc hr => hC ▸ hi _ (rowMajor_cell_lt hc hr)⟩
  · rintro ⟨hC, hR, hcell⟩
    refine ⟨⟨⟨by rw [hb.len, hC, hR], fun i hi => ?_⟩, hR⟩, hC⟩
    obtain ⟨h1, h2, h3⟩ := rowMajor_cell_of_lt hi
    have := hcell _ _ h1 h2
    rwa [← hC, h3] at this

/-- with a lawful element equality (`eqα x y ↔ x = y`), `==` is equality of dimensions and cells -/
theorem C20_eq_iff (eqα : α → α → Bool) (heq : ∀ x y, eqα x y = true ↔ x = y) (a b : TD α) :
    TD.eqDerived eqα a b = true ↔ (a.numCols = b.numCols ∧ a.numRows = b.numRows ∧ a.data = b.data) := by
  unfold TD.eqDerived
  rw [Bool.and_eq_true, Bool.and_eq_true, TD.sliceEq_lawful eqα heq, beq_iff_eq, beq_iff_eq]
  constructor
  · rintro ⟨⟨hd, hR⟩, hC⟩; exact ⟨hC, hR, hd⟩
  · rintro ⟨hC, hR, hd⟩; exact ⟨⟨hd, hR⟩, hC⟩

/-- `#[derive(Hash)]` (`TD.hashFeed`): arrays that compare equal feed the hasher the same sequence, provided the element type
    keeps the `Hash`/`Eq` contract (`eqα x y → hα x = hα y`) — so equal arrays hash equally under every hasher -/
theorem C20_hash_eq (eqα : α → α → Bool) (hα : α → List Nat) (hc : ∀ x y, eqα x y = true → hα x = hα y) (a b : TD α)
    (hab : TD.eqDerived eqα a b = true) : TD.hashFeed hα a = TD.hashFeed hα b := by
  unfold TD.eqDerived at hab
  rw [Bool.and_eq_true, Bool.and_eq_true, beq_iff_eq, beq_iff_eq] at hab
  obtain ⟨⟨hd, hR⟩, hC⟩ := hab
  unfold TD.hashFeed
  rw [((TD.sliceEq_iff ..).1 hd).1, TD.sliceEq_flatMap eqα hα hc _ _ hd, hR, hC]

/-- `clone()` (`#[derive(Clone)]`, `TD.clone`): same dimensions, the shape invariant, every cell the clone of the corresponding
    cell; it compares equal to the original whenever clones compare equal to their originals.  (Independence — writing to one
    does not change the other — is the value semantics of the model: the clone shares nothing with `t`; on the real crate it is
    observed by the harness's `indep` flag.) -/
theorem C20_clone (cl : α → α) (eqα : α → α → Bool) (t : TD α) (h : t.Inv) :
    (t.clone cl).Inv ∧ (t.clone cl).numCols = t.numCols ∧ (t.clone cl).numRows = t.numRows ∧
    (∀ c r, (t.clone cl).data[t.pos c r]? = (t.data[t.pos c r]?).map cl) ∧
    ((∀ x, eqα (cl x) x = true) → TD.eqDerived eqα (t.clone cl) t = true) := by
  refine ⟨h.clone cl, rfl, rfl, fun c r => List.getElem?_map .., fun hcl => ?_⟩
  show (TD.sliceEq eqα (t.data.map cl) t.data && (t.numRows == t.numRows) && (t.numCols == t.numCols)) = true
  rw [TD.sliceEq_map_clone eqα cl hcl, beq_self_eq_true, beq_self_eq_true]
  rfl

/-- `clone_from` (the derive keeps the trait default `*self = source.clone()`): on success the array is the clone of the source
    (C20_clone); if an element's `clone` panics the array is untouched — in both outcomes the shape invariant holds (C11) -/
theorem C20_clone_from (cl : α → α) (t src : TD α) (h : t.Inv) (hs : src.Inv) (fault : Option Nat) :
    (t.cloneFrom cl src fault).1.Inv ∧
    ((t.cloneFrom cl src fault).2.2 = .ok () → (t.cloneFrom cl src fault).1 = src.clone cl ∧ (t.cloneFrom cl src fault).2.1 = t.data) ∧
    ((t.cloneFrom cl src fault).2.2 ≠ .ok () → (t.cloneFrom cl src fault).1 = t) := by
  have hc := hs.clone cl
  cases fault with
  | none => simp [TD.cloneFrom, hc]
  | some k =>
    by_cases hk : k < src.data.length
    · simp [TD.cloneFrom, hk, h]
    · simp [TD.cloneFrom, hk, hc]

/-- converting into a `Vec`, a boxed slice or a by-value iterator yields the cells in row-major order: item number `r*C + c` is
    cell `(c,r)`, there are `C*R` items, and the by-value iterator behaves as the ideal sequence over them -/
theorem C20_into (t : TD α) (h : t.Inv) :
    t.intoVec.length = t.numCols * t.numRows ∧ t.intoBox = t.intoVec ∧ t.intoIter = t.intoVec ∧
    (∀ c r, c < t.numCols → r < t.numRows → t.intoVec[r * t.numCols + c]? = t.data[t.pos c r]?) ∧
    t.intoVec = t.grid.flatten := by
  refine ⟨h.len, rfl, rfl, fun c r _ _ => rfl, h.data_eq_flatten_grid⟩

/-- `From<view>` / `From<view_mut>`: exactly the view's dimensions, the shape invariant, and the viewed cells in row-major order.
    `hcap` (`cap` = the `Vec` capacity limit of the element type): a slice of `buf.length` such elements exists, so the limit is at
    least that, and the `C * R` cells needed are no more. -/
theorem C20_from_view (m : Mode) (cap : Nat) (v : VW) (buf : List α) (h : v.Inv buf.length) (hcap : buf.length ≤ cap) :
    ∃ t, v.toOwned m cap buf = .ok t ∧ t.Inv ∧ t.numCols = v.numCols ∧ t.numRows = v.numRows ∧
      t.data = ((List.range v.numRows).map fun r => (List.range v.numCols).filterMap fun c => buf[v.pos c r]?).flatten ∧
      ∀ c r, c < v.numCols → r < v.numRows → t.data[t.pos c r]? = buf[v.pos c r]? := by
  -- the statement's list of rows is `v.grid buf`
  refine ⟨_, h.toOwned_ok m (Nat.le_trans h.area_le_buf hcap),
    ⟨h.grid_flatten_length, h.zero, h.grid_flatten_length ▸ h.area_word⟩, rfl, rfl, rfl,
    fun c r hc hr => h.grid_flatten_getElem? hc hr⟩

/-- non-vacuity: a concrete accepted and a concrete rejected request of each kind -/
example : shapeOk 3 2 ∧ ¬ shapeOk 5 0 ∧ ¬ shapeOk 4294967296 4294967296 := by decide
example : TD.fromVec 3 2 [1, 2, 3, 4, 5, 6] = .ok ⟨[1, 2, 3, 4, 5, 6], 2, 3⟩ := rfl
example : TD.new 100 5 0 (0 : Nat) = .error .panic := rfl

/-- non-vacuity: derived equality, hashing, `clone` and the conversions on a concrete 3x2 array (the same cells with the
    dimensions exchanged compare unequal) -/
example : TD.eqDerived (· == ·) (⟨[1, 2, 3, 4, 5, 6], 2, 3⟩ : TD Nat) ⟨[1, 2, 3, 4, 5, 6], 2, 3⟩ = true ∧
    TD.eqDerived (· == ·) (⟨[1, 2, 3, 4, 5, 6], 2, 3⟩ : TD Nat) ⟨[1, 2, 3, 4, 5, 6], 3, 2⟩ = false := by decide
example : TD.hashFeed (fun x => [x]) (⟨[1, 2, 3, 4, 5, 6], 2, 3⟩ : TD Nat) = [6, 1, 2, 3, 4, 5, 6, 2, 3] := by rfl
example : TD.eqDerived (· == ·) (TD.clone id (⟨[1, 2, 3, 4, 5, 6], 2, 3⟩ : TD Nat)) ⟨[1, 2, 3, 4, 5, 6], 2, 3⟩ = true :=
  (C20_clone id (· == ·) (⟨[1, 2, 3, 4, 5, 6], 2, 3⟩ : TD Nat) ⟨rfl, by decide, by decide⟩).2.2.2.2 (by simp)
example : (⟨[1, 2, 3, 4, 5, 6], 2, 3⟩ : TD Nat).intoVec = [[1, 2, 3], [4, 5, 6]].flatten ∧
    (⟨[1, 2, 3, 4, 5, 6], 2, 3⟩ : TD Nat).grid = [[1, 2, 3], [4, 5, 6]] := by decide

end Toodee
