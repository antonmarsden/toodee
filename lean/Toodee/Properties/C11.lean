import Toodee.Proofs.DrainLemmas
import Toodee.Proofs.InsertLemmas
import Toodee.Properties.C04
import Toodee.Properties.C13Dispatch
/-
  C11 — A panic in caller-supplied code leaves a valid array.

  Proved here for the crate's own critical sections, i.e. the places where caller code runs while the `Vec`'s length or the
  dimensions are temporarily falsified:
  * `insert_row` / `insert_col` with **any** iterator script (any mixture of items and panics, any claimed length — too short,
    too long, enormous), any capacity, both build modes: never `ub`; whatever the outcome (success, assertion panic, iterator
    panic) the array afterwards satisfies the shape invariant; and elements are conserved: the array's cells, the leaked
    elements and the items the caller still holds are together exactly the old cells plus the supplied items (a permutation:
    nothing duplicated, nothing invented) — so no element can be dropped twice, then or later.
  * `DrainCol::drop` when an element's destructor panics (one panic; the `DropGuard` finishes the job): the array ends up
    exactly as after a normal drop.
  * the sort family: the side sort runs on a separate buffer before the array is touched, so a panicking comparator / key
    function leaves the buffer exactly as it was.
  Panics inside `Vec`'s own operations (`resize_with`, `fill`, `clone`, `drain`, `clear`) are std's responsibility (assumed
  components, exercised for real by the harness's fault injection).

  Theorems: `C11_insert_row`, `C11_insert_col` (from `TD.Inv.insertRow_script` / `TD.Inv.insertCol_script` and `insert_outcome_safe`,
  Proofs/InsertLemmas), `C11_drain_col_drop_fault`, `C11_sort_caller_panic`, `C11_sort_caller_panic_at`,
  `C11_sort_writes_after_side`.
  No theorem:
  * "the buffer is as it was" after a panicking comparator or key function: in the model a failed in-place call returns no
    buffer (`Res (List α)`), and no write precedes the side sort; the sort theorems say when the call panics and that a written
    buffer comes from a side sort that returned.
  * the per-row `clone` loops of the trait defaults (`fill`, `clone_from_slice`, `clone_from_toodee`: crate code, ops.rs,
    copy.rs): they have no critical section, so a panicking `clone` leaves a valid array with some rows written; nothing
    beyond C04 is claimed for them.
  * a second panic while `DrainCol`'s `DropGuard` runs (an abort in Rust).
-/
namespace Toodee
variable {α : Type}

/-- `insert_row` with any iterator script.  `hsp`: if `reserve` succeeds, it has provided the cells for the claimed line (`spare`
    is what lies beyond the length); `hcapw`: the capacity limit (`reserveOk`'s `capLimit`, at most `usize::MAX`) is below `WORD`. -/
theorem C11_insert_row (m : Mode) (cap : Nat) (t : TD α) (h : t.Inv) (i : Nat) (it : IterScript α) (spare : List α)
    (hsp : it.claimed ≤ spare.length ∨ ¬ reserveOk cap t.data.length (if t.numRows = 0 then it.claimed else t.numCols))
    (hcapw : cap < WORD) :
    let o := t.insertRow m cap i it spare
    o.res ≠ .error .ub ∧ o.res ≠ .error .fuel ∧ o.t.Inv ∧
    (o.t.data ++ o.leaked ++ itemsOf o.rest).Perm (t.data ++ itemsOf it.events) := by
  intro o
  by_cases hacc : i ≤ t.numRows ∧ (t.numRows = 0 ∨ it.claimed = t.numCols) ∧
      reserveOk cap t.data.length (if t.numRows = 0 then it.claimed else t.numCols) = true
  case neg =>
    have ho : o = _ := TD.insertRow_reject m cap t i it spare hacc
    rw [ho]
    exact insert_outcome_safe t it.events _ [] (.inr rfl) h (.refl _) (.refl _)
  obtain ⟨hi, hlen, hres⟩ := hacc
  obtain ⟨hcapN, hspN⟩ := guards_bounds hlen hres hsp
  obtain ⟨N, events⟩ := it
  simp only at hlen hcapN hspN
  have hscr := fun ys rest => h.insertRow_script m cap i N ys spare rest hi hlen hcapN hspN
  have hsplit := List.take_append_drop (i * t.numCols) t.data
  have hpI := (h.take_rows hi).1
  have hok := fun ys => h.grid_insertIdx hi ys
  -- shorthand: `A` the cells before row `i`, `T` those from row `i` on
  generalize t.data.take (i * t.numCols) = A at hscr hsplit hpI hok
  generalize t.data.drop (i * t.numCols) = T at hscr hsplit hok
  -- the cells after the items `ys` were written, whether the call goes on to succeed or unwinds (then `ys` and the rows behind
  -- them are leaked)
  have hcells : ∀ ys : List α, (A ++ (ys ++ T)).Perm (t.data ++ ys) := fun ys => by
    rw [← hsplit, ← List.append_assoc]
    exact perm_append_right_comm A ys T
  rcases script_split N events with ⟨ys, rem, rfl, rfl⟩ | ⟨ys, tail, hyN, rfl, ht⟩
  · have ho : o = _ := (hscr ys rem).1 rfl
    obtain ⟨ev', hev', hend⟩ := rowEnd_cases m (TD.ofRows ys.length (t.grid.insertIdx i ys))
      ⟨A, i, if i = 0 then 0 else t.numCols⟩ (ys ++ T) rem
    have hitems : (itemsOf (ys.map some ++ rem)).Perm (ys ++ itemsOf ev') := by
      rw [itemsOf_append, itemsOf_map_some]
      exact hev'.symm.append_left ys
    rcases hend with hend | hend
    · rw [ho, hend]
      obtain ⟨hall, hflat, hl⟩ := hok ys hlen
      refine insert_outcome_safe t _ _ ys (.inl rfl) (TD.ofRows_inv hall (hl ▸ Nat.lt_of_le_of_lt hcapN hcapw)) ?_ hitems
      show ((t.grid.insertIdx i ys).flatten ++ []).Perm _
      rw [hflat, List.append_nil, List.append_assoc]
      exact hcells ys
    · rw [ho, hend]
      exact insert_outcome_safe t _ _ ys (.inr rfl) hpI (hcells ys) hitems
  · have ho : o = _ := (hscr ys tail).2 hyN ht
    rw [ho]
    refine insert_outcome_safe t _ _ ys (.inr rfl) hpI (hcells ys) ?_
    rw [itemsOf_append, itemsOf_map_some]
    rcases ht with rfl | ⟨tl, rfl⟩ <;> exact .refl _

/-- `insert_col` with any iterator script, which it pulls from the back; `hsp`, `hcapw` as for `C11_insert_row` -/
theorem C11_insert_col (m : Mode) (cap : Nat) (t : TD α) (h : t.Inv) (i : Nat) (it : IterScript α) (spare : List α)
    (hsp : it.claimed ≤ spare.length ∨ ¬ reserveOk cap t.data.length (if t.numCols = 0 then it.claimed else t.numRows))
    (hcapw : cap < WORD) :
    let o := t.insertCol m cap i it spare
    o.res ≠ .error .ub ∧ o.res ≠ .error .fuel ∧ o.t.Inv ∧
    (o.t.data ++ o.leaked ++ itemsOf o.rest).Perm (t.data ++ itemsOf it.events) := by
  intro o
  by_cases hacc : i ≤ t.numCols ∧ (t.numCols = 0 ∨ it.claimed = t.numRows) ∧
      reserveOk cap t.data.length (if t.numCols = 0 then it.claimed else t.numRows) = true
  case neg =>
    have ho : o = _ := TD.insertCol_reject m cap t i it spare hacc
    rw [ho]
    exact insert_outcome_safe t it.events _ [] (.inr rfl) h (.refl _) (.refl _)
  obtain ⟨hi, hlen, hres⟩ := hacc
  obtain ⟨hcapR, hspR⟩ := guards_bounds hlen hres hsp
  obtain ⟨N, events⟩ := it
  simp only at hlen hcapR hspR
  have hw : t.data.length + N < WORD := Nat.lt_of_le_of_lt hcapR hcapw
  have hscr := fun ys rest => h.insertCol_script m cap i N ys spare rest hi hlen hcapR hspR hw
  -- the script in the order it is pulled: from the back
  obtain ⟨ev, rfl⟩ : ∃ ev, events = ev.reverse := ⟨events.reverse, (List.reverse_reverse _).symm⟩
  -- after a panic the `Vec` is empty and the items pulled, `ys`, are leaked with the old cells
  have hcells : ∀ ys : List α, ([] ++ (ys ++ t.data)).Perm (t.data ++ ys) := fun ys =>
    (List.perm_append_comm : (ys ++ t.data).Perm (t.data ++ ys))
  rcases script_split N ev with ⟨ys, rem, rfl, rfl⟩ | ⟨ys, tail, hyN, rfl, ht⟩
  · have ho : o = _ := (hscr ys rem).1 rfl
    obtain ⟨hall, hp, hl⟩ := h.rowsForCol_insAt i hlen ys.reverse ys.length_reverse
    obtain ⟨ev', hev', hend⟩ := colEnd_cases m
      (TD.ofRows (t.numCols + 1) (List.zipWith (insAt i) (t.rowsForCol ys.length) ys.reverse)) (ys ++ t.data) rem
    have hitems : (itemsOf (ys.map some ++ rem).reverse).Perm (ys ++ itemsOf ev') := by
      rw [itemsOf_reverse, itemsOf_append, itemsOf_map_some]
      exact (List.reverse_perm _).trans (hev'.symm.append_left ys)
    rcases hend with hend | hend
    · rw [ho, hend]
      exact insert_outcome_safe t _ _ ys (.inl rfl) (TD.ofRows_inv hall (hl ▸ hw))
        ((List.append_nil _).symm ▸ hp.trans ((List.reverse_perm ys).append_left _)) hitems
    · rw [ho, hend]
      exact insert_outcome_safe t _ _ ys (.inr rfl) TD.Inv.nil (hcells ys) hitems
  · have ho : o = _ := (hscr ys tail).2 hyN ht
    rw [ho]
    refine insert_outcome_safe t _ _ ys (.inr rfl) TD.Inv.nil (hcells ys) ?_
    rw [itemsOf_reverse, itemsOf_append, itemsOf_map_some]
    refine (List.reverse_perm _).trans (.append_left ys ?_)
    rcases ht with rfl | ⟨tl, rfl⟩
    · exact .refl _
    · exact (itemsOf_reverse tl ▸ (List.reverse_perm _).symm : (itemsOf tl).Perm (itemsOf tl.reverse))

/-- `Drop for DrainCol` (the loop as written, `DrainCol.dropLoop`) when the destructor of the `j`-th remaining element panics
    (`j = none`: no panic): the `DropGuard` runs during unwinding, so the array and the set of dropped elements are exactly
    those of a normal drop (`DrainCol.drop`, characterised by C07_remove_col_drop); the panic fires iff `j` is within the
    `k` elements left. -/
theorem C11_drain_col_drop_fault (m : Mode) (t : TD α) (h : t.Inv) (i : Nat) (hi : i < t.numCols)
    (d : DrainCol α) (hb : d.buf = t.data) (hc : d.col = i) (hnc : d.numCols = t.numCols) (hnr : d.numRows = t.numRows)
    (k : Nat) (hwf : d.iter.WF k t.data.length) (j : Option Nat) (fuel : Nat) (hf : k < fuel) :
    ∃ t' dropped p, d.dropLoop m fuel j [] = .ok ((t', dropped), p) ∧ d.drop m = .ok (t', dropped) ∧
      (p = true ↔ ∃ jj, j = some jj ∧ jj < k) := by
  have hd := DrainCol.drop_ok h m hi
  rw [← hb] at hwf hd
  exact ⟨_, _, _, DrainCol.dropLoop_ok m fuel k d j [] hwf hf fun it' k' tk => hd { d with iter := it', taken := tk } rfl hc hnc hnr k',
    hd d rfl hc hnc hnr k hwf, by cases j <;> simp⟩

/-- **a panicking comparator / key function**: every sort method calls caller code only inside its side sort (`SideSort`), which
    runs on a separate table before the array is written (`applyColPerm` / `applyRowPerm` are the only writers and come after it in
    `Acc.sortRowWith` / `Acc.sortColWith`).  Whatever the receiver (owned array, third-party implementor, view), the row/column
    index and the side-table limit: if the side sort panics the call ends in `panic` — never `ub` — and in the model a failed
    in-place call returns no new buffer: the array is the one before the call (shape invariant and all cells as before, C01). -/
theorem C11_sort_caller_panic (m : Mode) (lim : Nat) (side : SideSort α) (hp : ∀ keys, side keys = .error .panic) (k : Nat) :
    (∀ (t : TD α), t.Inv →
      (Recv.root t).run m lim t.data (.sortRow side k) = .error .panic ∧
      (Recv.root t).run m lim t.data (.sortCol side k) = .error .panic ∧
      (Recv.ext t).run m lim t.data (.sortRow side k) = .error .panic ∧
      (Recv.ext t).run m lim t.data (.sortCol side k) = .error .panic) ∧
    (∀ (v : VW) (buf : List α), v.Inv buf.length →
      (Recv.vmut v).run m lim buf (.sortRow side k) = .error .panic ∧
      (Recv.vmut v).run m lim buf (.sortCol side k) = .error .panic) := by
  have hs : side.Sane := fun keys => .inl (hp keys)
  exact ⟨fun t h => ⟨Recv.Sound.run_sortRow_panic (rc := .root t) ⟨h, rfl⟩ rfl m lim hs (hp _),
      Recv.Sound.run_sortCol_panic (rc := .root t) ⟨h, rfl⟩ rfl m lim hs (hp _),
      Recv.Sound.run_sortRow_panic (rc := .ext t) ⟨h, rfl⟩ rfl m lim hs (hp _),
      Recv.Sound.run_sortCol_panic (rc := .ext t) ⟨h, rfl⟩ rfl m lim hs (hp _)⟩,
    fun v buf h => ⟨Recv.Sound.run_sortRow_panic (rc := .vmut v) h rfl m lim hs (hp _),
      Recv.Sound.run_sortCol_panic (rc := .vmut v) h rfl m lim hs (hp _)⟩⟩

/-- the same at the point where it matters: it suffices that the side sort panics **on the keys of the chosen line** of a valid
    line index (a comparator that panics on its k-th call for this array) -/
theorem C11_sort_caller_panic_at (m : Mode) (lim : Nat) (v : VW) (buf : List α) (h : v.Inv buf.length) (side : SideSort α)
    (hs : side.Sane) (k : Nat) :
    (k < v.numRows → v.numCols ≤ lim → side (readWin buf (v.rowWin k)) = .error .panic →
      (Recv.vmut v).run m lim buf (.sortRow side k) = .error .panic) ∧
    (k < v.numCols → v.numRows ≤ lim → side (v.colKeys buf k) = .error .panic →
      (Recv.vmut v).run m lim buf (.sortCol side k) = .error .panic) ∧
    (∀ (t : TD α), t.Inv → v = t.asView → buf = t.data →
      (k < t.numRows → t.numCols ≤ lim → side (readWin t.data (t.asView.rowWin k)) = .error .panic →
        (Recv.root t).run m lim t.data (.sortRow side k) = .error .panic) ∧
      (k < t.numCols → t.numRows ≤ lim → side (t.asView.colKeys t.data k) = .error .panic →
        (Recv.root t).run m lim t.data (.sortCol side k) = .error .panic)) := by
  exact ⟨fun _ _ h3 => Recv.Sound.run_sortRow_panic (rc := .vmut v) h rfl m lim hs h3,
    fun _ _ h3 => Recv.Sound.run_sortCol_panic (rc := .vmut v) h rfl m lim hs h3,
    fun t ht _ _ => ⟨fun _ _ h3 => Recv.Sound.run_sortRow_panic (rc := .root t) ⟨ht, rfl⟩ rfl m lim hs h3,
      fun _ _ h3 => Recv.Sound.run_sortCol_panic (rc := .root t) ⟨ht, rfl⟩ rfl m lim hs h3⟩⟩

/-- … and whenever a sort does write, its side sort had returned: a successful sort is a permutation of whole columns / rows by
    the permutation the side sort produced (no partial state is observable in between: C16_sort_row_with, C17_sort_col_with) -/
theorem C11_sort_writes_after_side (m : Mode) (lim : Nat) (v : VW) (buf : List α) (h : v.Inv buf.length) (side : SideSort α)
    (hs : side.Sane) (k : Nat) (buf' : List α) :
    ((Recv.vmut v).run m lim buf (.sortRow side k) = .ok buf' →
      ∃ p, side (readWin buf (v.rowWin k)) = .ok p ∧ buf' = gather buf (v.mapCells (sortColsG p))) ∧
    ((Recv.vmut v).run m lim buf (.sortCol side k) = .ok buf' →
      ∃ p, side (v.colKeys buf k) = .ok p ∧ buf' = gather buf (v.mapCells (sortRowsG p))) := by
  -- a specification of the shape `if c then side keys >>= pure ∘ f else panic` that succeeded: the side sort had returned
  have key : ∀ (c : Prop) [Decidable c] (keys : List α) (f : List Nat → List α),
      (if c then side keys >>= fun p => pure (f p) else throw .panic : Res (List α)) = .ok buf' →
      ∃ p, side keys = .ok p ∧ buf' = f p := by
    intro c _ keys f e
    split at e
    · cases hk : side keys with
      | error x => rw [hk] at e; cases e
      | ok p => rw [hk] at e; exact ⟨p, rfl, by cases e; rfl⟩
    · cases e
  constructor
  · intro e
    rw [Recv.Sound.run_eq_spec (rc := .vmut v) h rfl m lim (.sortRow side k) hs trivial] at e
    exact key _ _ _ e
  · intro e
    rw [Recv.Sound.run_eq_spec (rc := .vmut v) h rfl m lim (.sortCol side k) hs trivial] at e
    exact key _ _ _ e

/-- non-vacuity: an iterator that panics on its second `next()` while a row is being inserted (one element written, then the
    panic: that element is leaked, the array keeps its old rows), an iterator that claims `usize::MAX` items (rejected by `reserve`,
    nothing consumed), and a panic at the first pull of `insert_col` (the `Vec` was at length 0: everything is leaked, the array is
    the valid empty array) -/
example : (⟨[1, 2, 3], 1, 3⟩ : TD Nat).insertRow .debug 100 1 ⟨3, [some 7, none, some 9]⟩ [0, 0, 0]
    = ⟨⟨[1, 2, 3], 1, 3⟩, .error .panic, [some 9], [7]⟩ := by rfl
example : (⟨[1, 2, 3], 1, 3⟩ : TD Nat).insertRow .release 100 0 ⟨18446744073709551615, [some 7]⟩ [0, 0, 0]
    = ⟨⟨[1, 2, 3], 1, 3⟩, .error .panic, [some 7], []⟩ := by rfl
example : (⟨[1, 2, 3, 4], 2, 2⟩ : TD Nat).insertCol .debug 100 1 ⟨2, [some 7, none]⟩ [0, 0]
    = ⟨⟨[], 0, 0⟩, .error .panic, [some 7], [1, 2, 3, 4]⟩ := by rfl

end Toodee
