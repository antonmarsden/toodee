import Toodee.Proofs.ViewLemmas
/-
  C03 — A view is exactly the requested window of its parent.

  For every parent (owned array or view, any nesting depth: the parent is *any* `VW` with its invariant) and every
  `start ≤ end ≤ (C,R)` componentwise, all view constructors succeed with a window of size `end - start` (or `(0,0)` when
  either extent is zero) whose cell `(c,r)` *is* (same root-buffer position as) the parent's cell `(start.0+c, start.1+r)`,
  and the result again satisfies the view invariant (so the theorem applies to it again: nesting).  Any other
  `start`/`end` panics (never `ub`).  Position equality is what makes "writing a cell through a mutable view changes
  exactly that parent cell" true in the window model.

  The theorems: `C03_view_valid` / `C03_view_invalid` (all three slicings of a view, accepted and rejected requests),
  `C03_from_toodee_valid` / `_invalid` (the same from an owned array), `C03_spec_view` (the constructors compute `specView`),
  `C03_borrow_spec` (what each borrowing step of `Recv.borrow` returns, for every receiver kind; the views built directly over a
  slice, `TooDeeView::new` / `TooDeeViewMut::new`, appear here only as steps from the array itself; their constructors are C20's),
  `C03_borrow` and `C03_borrow_chain` (one step, any chain of steps: never `ub`, a sound receiver inside the one borrowed from).
  They cite Proofs/ViewLemmas.lean, which also has what the statements leave out: that the composed coordinate
  `(start.0+c, start.1+r)` is in range of the parent (`VW.Inv.specView_some`), and `Recv.Sound`, `Recv.IsCell`, `Recv.asVW`.
  Not here: the effect of a write through a mutable view on the parent's cells (C04).
-/
namespace Toodee
variable {α : Type}

/-- `TooDeeView::view`, `TooDeeViewMut::view_mut` (unchecked slicing) and `TooDeeViewMut::view` (checked slicing) on a view -/
theorem C03_view_valid (m : Mode) (v : VW) (n : Nat) (h : v.Inv n) (s e : Nat × Nat)
    (hs : s.1 ≤ e.1 ∧ s.2 ≤ e.2) (he : e.1 ≤ v.numCols ∧ e.2 ≤ v.numRows) :
    ∃ v', v.view m s e = .ok v' ∧ v.viewChecked m s e = .ok v' ∧ v'.Inv n ∧
      (v'.numCols, v'.numRows) = viewSize s e ∧
      ∀ c r, c < v'.numCols → r < v'.numRows → v'.pos c r = v.pos (s.1 + c) (s.2 + r) := by
  have h1 := h.view_eq m s e
  rw [h.viewChecked_eq_view]
  cases hsv : specView v s e with
  | none => exact absurd ⟨hs.1, hs.2, he⟩ (specView_eq_none.1 hsv)
  | some v' =>
    rw [hsv] at h1
    obtain ⟨_, hi, hsz, hpos⟩ := h.specView_some hsv
    exact ⟨v', h1, h1, hi, hsz, fun c r hc hr => (hpos c r hc hr).2⟩

/-- any other `start` / `end` panics, in all three slicings of a view -/
theorem C03_view_invalid (m : Mode) (v : VW) (n : Nat) (h : v.Inv n) (s e : Nat × Nat)
    (hw : s.1 < WORD ∧ s.2 < WORD ∧ e.1 < WORD ∧ e.2 < WORD)
    (hbad : ¬ ((s.1 ≤ e.1 ∧ s.2 ≤ e.2) ∧ (e.1 ≤ v.numCols ∧ e.2 ≤ v.numRows))) :
    v.view m s e = .error .panic ∧ v.viewChecked m s e = .error .panic := by
  have _ := hw      -- not needed: `specView` and the constructors agree on every `Nat` argument
  have hv := h.view_eq m s e
  rw [specView_eq_none.2 fun hh => hbad ⟨⟨hh.1, hh.2.1⟩, hh.2.2⟩] at hv
  exact ⟨hv, (h.viewChecked_eq_view m s e).trans hv⟩

/-- `TooDee::view` / `view_mut` (`from_toodee`) on an owned array -/
theorem C03_from_toodee_valid (m : Mode) (t : TD α) (h : t.Inv) (s e : Nat × Nat)
    (hs : s.1 ≤ e.1 ∧ s.2 ≤ e.2) (he : e.1 ≤ t.numCols ∧ e.2 ≤ t.numRows) :
    ∃ v', VW.fromTooDee m s e t = .ok v' ∧ v'.Inv t.data.length ∧
      (v'.numCols, v'.numRows) = viewSize s e ∧
      ∀ c r, c < v'.numCols → r < v'.numRows → v'.pos c r = t.pos (s.1 + c) (s.2 + r) := by
  have hinv := h.asView
  have hpos := t.asView_pos
  obtain ⟨v', h1, _, h3, h4, h5⟩ := C03_view_valid m t.asView t.data.length hinv s e hs he
  refine ⟨v', by rw [VW.fromTooDee_eq_view]; exact h1, h3, h4, ?_⟩
  intro c r hc hr
  rw [h5 c r hc hr, hpos]

/-- any other `start` / `end` panics from an owned array too -/
theorem C03_from_toodee_invalid (m : Mode) (t : TD α) (h : t.Inv) (s e : Nat × Nat)
    (hw : s.1 < WORD ∧ s.2 < WORD ∧ e.1 < WORD ∧ e.2 < WORD)
    (hbad : ¬ ((s.1 ≤ e.1 ∧ s.2 ≤ e.2) ∧ (e.1 ≤ t.numCols ∧ e.2 ≤ t.numRows))) :
    VW.fromTooDee m s e t = .error .panic :=
  (C03_view_invalid m t.asView _ h.asView s e hw hbad).1

/-- the window the oracle computes (`specView`, Spec/OpsSpec.lean) is exactly what the view constructors return -/
theorem C03_spec_view (m : Mode) (v : VW) (n : Nat) (h : v.Inv n) (s e : Nat × Nat)
    (hw : s.1 < WORD ∧ s.2 < WORD ∧ e.1 < WORD ∧ e.2 < WORD) :
    (∀ v', specView v s e = some v' → v.view m s e = .ok v' ∧ v.viewChecked m s e = .ok v') ∧
    (specView v s e = none → v.view m s e = .error .panic ∧ v.viewChecked m s e = .error .panic) := by
  have _ := hw
  have hv := h.view_eq m s e
  rw [h.viewChecked_eq_view]
  exact ⟨fun v' hv' => by rw [hv'] at hv; exact ⟨hv, hv⟩, fun hn => by rw [hn] at hv; exact ⟨hv, hv⟩⟩

/-! ### nesting to any depth: chains of borrowing steps (`Recv.borrow`, Impl/Recv.lean) -/

/-- the arguments of a borrowing step are `usize` values -/
def Borrow.small : Borrow → Prop
  | .asExt => True
  | .viewMut s e | .view s e => s.1 < WORD ∧ s.2 < WORD ∧ e.1 < WORD ∧ e.2 < WORD
  | .sliceMut c r n | .slice c r n => c < WORD ∧ r < WORD ∧ n < WORD

/-- **what a borrowing step produces** (so the dispatch in `Recv.borrow` is determined, not only its safety): for every receiver kind
    `view(s,e)` gives the shared view of exactly the window `specView` prescribes (C03_view_valid: size `end - start`, cells
    `(start+c, start+r)` of the parent) or panics when `specView` rejects; `view_mut(s,e)` the mutable view of the same window
    (not available on a shared view); the slice constructors accept exactly `n ≤ len ∧ shapeOk c r ∧ c*r ≤ n` and give the
    row-major prefix view; `asExt` only re-labels an owned array. -/
theorem C03_borrow_spec (m : Mode) (n : Nat) (rc : Recv α) (h : rc.Sound n) :
    (∀ s e, s.1 < WORD ∧ s.2 < WORD ∧ e.1 < WORD ∧ e.2 < WORD →
      rc.borrow m (.view s e) = (match specView rc.asVW s e with | some v' => .ok (some (.vsh v')) | none => .error .panic) ∧
      rc.borrow m (.viewMut s e) =
        (match rc with
         | .vsh _ => .ok none
         | _ => (match specView rc.asVW s e with | some v' => .ok (some (.vmut v')) | none => .error .panic))) ∧
    (∀ c r k,
      rc.borrow m (.sliceMut c r k) =
        (match rc with
         | .root t => if k ≤ t.data.length ∧ shapeOk c r ∧ c * r ≤ k then .ok (some (.vmut ⟨⟨0, c * r⟩, c, r, c⟩)) else .error .panic
         | _ => .ok none) ∧
      rc.borrow m (.slice c r k) =
        (match rc with
         | .root t => if k ≤ t.data.length ∧ shapeOk c r ∧ c * r ≤ k then .ok (some (.vsh ⟨⟨0, c * r⟩, c, r, c⟩)) else .error .panic
         | _ => .ok none)) ∧
    rc.borrow m .asExt = (match rc with | .root t => .ok (some (.ext t)) | _ => .ok none) :=
  ⟨fun s e _ => ⟨h.borrow_view m s e, h.borrow_viewMut m s e⟩,
    fun c r k => by cases rc <;> exact ⟨Recv.borrow_sliceMut m _ c r k, Recv.borrow_slice m _ c r k⟩, by cases rc <;> rfl⟩

/-- **one borrowing step from any sound receiver** (owned array, third-party wrapper, mutable or shared view at any nesting depth;
    every constructor incl. the slice-based ones; any arguments): never undefined behaviour; the new receiver is sound over the
    same root buffer; and its cells are cells of the receiver it was borrowed from -/
theorem C03_borrow (m : Mode) (n : Nat) (rc : Recv α) (h : rc.Sound n) (b : Borrow) (hb : b.small) :
    rc.borrow m b ≠ .error .ub ∧ rc.borrow m b ≠ .error .fuel ∧
    ∀ rc', rc.borrow m b = .ok (some rc') → rc'.Sound n ∧ ∀ p, rc'.IsCell p → rc.IsCell p := by
  have _ := hb      -- not needed: `Recv.Sound.borrow_outcome` holds for every `Nat` argument
  exact (h.borrow_outcome m b).facts

/-- **any chain of borrowing steps** (nested views to any depth) -/
theorem C03_borrow_chain (m : Mode) (n : Nat) (rc : Recv α) (h : rc.Sound n) (bs : List Borrow) (hb : ∀ b ∈ bs, b.small) :
    rc.borrowAll m bs ≠ .error .ub ∧ rc.borrowAll m bs ≠ .error .fuel ∧
    ∀ rc', rc.borrowAll m bs = .ok (some rc') → rc'.Sound n ∧ ∀ p, rc'.IsCell p → rc.IsCell p := by
  have _ := hb
  exact (h.borrowAll_outcome m bs).facts

/-- non-vacuity: the window `(1,0)..(3,2)` of a concrete 3x2 array, and the window `(1,0)..(2,2)` of that window (nesting),
    as concrete computations -/
example : VW.fromTooDee .release (1, 0) (3, 2) (⟨[1, 2, 3, 4, 5, 6], 2, 3⟩ : TD Nat) = .ok ⟨⟨1, 5⟩, 2, 2, 3⟩ := by rfl
example : VW.view .debug ⟨⟨1, 5⟩, 2, 2, 3⟩ (1, 0) (2, 2) = .ok ⟨⟨2, 4⟩, 1, 2, 3⟩ := by rfl
/-- non-vacuity of `C03_view_valid`: its hypotheses hold for that nested request (parent invariant included) -/
example : ∃ v', VW.view .debug ⟨⟨1, 5⟩, 2, 2, 3⟩ (1, 0) (2, 2) = .ok v' ∧ v'.Inv 8 ∧ (v'.numCols, v'.numRows) = (1, 2) := by
  obtain ⟨v', h1, _, h3, h4, _⟩ := C03_view_valid .debug ⟨⟨1, 5⟩, 2, 2, 3⟩ 8
    ⟨by decide, by decide, by decide, by decide, by decide, by decide⟩ (1, 0) (2, 2) (by decide) (by decide)
  exact ⟨v', h1, h3, h4⟩
/-- non-vacuity of `C03_view_invalid`: an `end` beyond the parent panics -/
example : VW.view .release ⟨⟨1, 5⟩, 2, 2, 3⟩ (0, 0) (3, 1) = .error .panic :=
  (C03_view_invalid .release _ 8 ⟨by decide, by decide, by decide, by decide, by decide, by decide⟩ (0, 0) (3, 1)
    (by decide) (by decide)).1

end Toodee
