import Toodee.Proofs.SpecCells
/-
  C13 (dispatch part) — the `TooDee` overrides agree with the trait defaults.

  A third-party implementor that provides only the required methods (`Recv.ext`: every default body runs) and `TooDee` itself
  (`Recv.root`: the overrides of `fill`, `swap`, `swap_rows`, `copy_from_slice`, `copy_from_toodee` run) behave identically on
  every mutating operation with every argument: same result buffer, same rejections.
-/
namespace Toodee
variable {α : Type}

/-- **the Impl-model refines the specification on owned arrays** (`TooDee`'s overrides and the defaults it inherits) -/
theorem C13_run_owned (m : Mode) (lim : Nat) (t : TD α) (h : t.Inv) (op : MOp α) (hs : op.Sane) (hsrc : op.srcOk) :
    (Recv.root t).run m lim t.data op = op.spec t.asView lim t.data :=
  Recv.Sound.run_eq_spec (rc := .root t) ⟨h, rfl⟩ rfl m lim op hs hsrc

/-- **… and on any third-party implementor** that provides the required methods as `TooDee` does (every trait default runs) -/
theorem C13_run_ext (m : Mode) (lim : Nat) (t : TD α) (h : t.Inv) (op : MOp α) (hs : op.Sane) (hsrc : op.srcOk) :
    (Recv.ext t).run m lim t.data op = op.spec t.asView lim t.data :=
  Recv.Sound.run_eq_spec (rc := .ext t) ⟨h, rfl⟩ rfl m lim op hs hsrc

/-- **the overrides agree with the defaults**: both compute the specification -/
theorem C13_overrides_agree (m : Mode) (lim : Nat) (t : TD α) (h : t.Inv) (op : MOp α) (hs : op.Sane) (hsrc : op.srcOk) :
    (Recv.ext t).run m lim t.data op = (Recv.root t).run m lim t.data op := by
  rw [C13_run_ext m lim t h op hs hsrc, C13_run_owned m lim t h op hs hsrc]

/-- an owned array never ends a mutating call in undefined behaviour, keeps its length, and is the whole-extent view of itself -/
theorem C13_owned_op (m : Mode) (lim : Nat) (t : TD α) (h : t.Inv) (op : MOp α) (hs : op.Sane) (hsrc : op.srcOk) :
    (Recv.root t).run m lim t.data op ≠ .error .ub ∧ (Recv.root t).run m lim t.data op ≠ .error .fuel ∧
    (∀ d, (Recv.root t).run m lim t.data op = .ok d → d.length = t.data.length) ∧
    (Recv.root t).run m lim t.data op = (Recv.vmut t.asView).run m lim t.data op := by
  have hvi := h.asView
  obtain ⟨f1, f2, f3, _⟩ := (MOp.SpecPair.of_spec hvi lim op hs).facts hvi
  rw [C13_run_owned m lim t h op hs hsrc, Recv.Sound.run_eq_spec (rc := .vmut t.asView) hvi rfl m lim op hs hsrc]
  exact ⟨f1, f2, fun d hd => (f3 d hd).1, rfl⟩

end Toodee
