import Toodee.Proofs.SwapLemmas
import Toodee.Properties.C16
/-
  C17 — Sorting by a column permutes whole rows into order.  The transpose of C16, on the same two modules; the key column is
  `VW.colKeys` and the body equation is `Acc.Of.sortColWith_eq` (both in `Proofs/SortLemmas`).

  `sort_by_col` collects the column's cells (cursor of C09), sorts `(index,&key)` pairs stably, builds the swap trace and applies
  it with the implementor's `swap_rows` (C13).  Result: `gather buf (v.mapCells (sortRowsG p))`: new row `j` is old row `p[j]`
  in every column.  The key variants delegate to these (src/sort.rs:216-233).

  * this file defines `SwapRowsSpec`, what the body assumes of the implementor's `swap_rows`; the three implementors satisfy it
    (`C17_swap_rows_spec_owned`, `_view`, `_default`).
  * `C17_sort_col_with`, the one body of all five methods read off `Acc.Of.sortColWith_eq`: an out-of-range column panics; a column
    with more than `lim` keys panics (the side table); a panic of caller code inside the side sort is the outcome and nothing has
    been written; otherwise the rows are permuted by the permutation `p` the side sort returned.
  * the result: the cell map is a bijection of the view (`C17_rows_bijective`); the key column of the result is the old key column
    read through `p`, so it is ordered whenever the side sort ordered the keys (`C17_result_col_sorted`, hypothesis `hsorted`).  For
    the stable methods `hsorted` is the second clause of `C16_stable_perm`, and the `*_ordered` theorems combine the two.  For the
    unstable methods `hsorted` is the contract of `sort_unstable_by` and stays a hypothesis: `C17_sort_unstable_by_col` together
    with `C17_result_col_sorted` is the intended reading.
-/
namespace Toodee
variable {α : Type}

/-- what the implementor's `swap_rows` must satisfy (proved for all three implementors in C13) -/
def SwapRowsSpec (v : VW) (n : Nat) (swapRows : List α → Nat → Nat → Res (List α)) : Prop :=
  ∀ b r1 r2, b.length = n →
    r1 < v.numRows → r2 < v.numRows → swapRows b r1 r2 = .ok (gather b (v.mapCells (swapRowsG r1 r2)))

/-- applying the trace of permutation `p` with `swap_rows` permutes whole rows: each step is the cell map `swapRowsG i j` (`hsw`);
    composed along the trace these act by `traceMap tr` on the row index (`compCells_swap_rows`); and `traceMap tr` is `k ↦ p[k]`
    below `numRows` (`buildSwapTrace_spec`), which is `sortRowsG p` -/
theorem C17_apply_row_perm (v : VW) (buf : List α) (h : v.Inv buf.length)
    (swapRows : List α → Nat → Nat → Res (List α)) (hsw : SwapRowsSpec v buf.length swapRows)
    (p : List Nat) (hp : p.Perm (List.range v.numRows)) :
    applyRowPerm swapRows buf p = .ok (gather buf (v.mapCells (sortRowsG p))) := by
  obtain ⟨tr, e1, hb, ht⟩ := buildSwapTrace_spec hp
  have hb' := SwapTrace.bounds_lt hb
  unfold applyRowPerm
  rw [e1]
  simp only [ok_bind]
  refine h.foldlM_gather_mapCells _ (fun ij => swapRowsG ij.1 ij.2) tr ?_ ?_ buf rfl _ fun c r hc hr => ?_
  · exact fun ij hij => swapRowsG_cellMap (hb' ij hij).1 (hb' ij hij).2
  · intro ij hij b hl
    exact hsw b ij.1 ij.2 hl (hb' ij hij).1 (hb' ij hij).2
  · rw [compCells_swap_rows tr (c, r)]
    show (c, traceMap tr r) = (c, p.getD r r)
    rw [ht r r hr]

theorem C17_key_col_length (v : VW) (buf : List α) (h : v.Inv buf.length) (c : Nat) (hc : c < v.numCols) :
    (v.colKeys buf c).length = v.numRows :=
  h.colKeys_length hc

/-- **Every `sort_*_col*` method** (`Acc.sortColWith`: the one body all five share; `col` = the implementor's `col()` (C09),
    `swapRows` = the implementor's `swap_rows` (C13)): out-of-range column panics; a column too long for the side table panics;
    a panic of caller code inside the side sort is the outcome (nothing written before); otherwise whole rows are permuted by the
    permutation `p` the side sort returned: new row `j` is old row `p[j]`. -/
theorem C17_sort_col_with (v : VW) (buf : List α) (h : v.Inv buf.length) (a : Acc) (ha : a.Of v buf.length)
    (col : Nat → Res Col)
    (hcol : ∀ c, c < v.numCols → ∃ it, col c = .ok it ∧ it.WF v.numRows buf.length ∧
      it.abs v.numRows = (List.range v.numRows).map fun r => v.pos c r)
    (swapRows : List α → Nat → Nat → Res (List α)) (hsw : SwapRowsSpec v buf.length swapRows)
    (lim : Nat) (side : SideSort α) (c : Nat) :
    (¬ c < v.numCols → a.sortColWith col swapRows buf lim side c = .error .panic) ∧
    (c < v.numCols → ¬ v.numRows ≤ lim → a.sortColWith col swapRows buf lim side c = .error .panic) ∧
    (c < v.numCols → v.numRows ≤ lim → ∀ e, side (v.colKeys buf c) = .error e →
      a.sortColWith col swapRows buf lim side c = .error e) ∧
    (c < v.numCols → v.numRows ≤ lim → ∀ p, side (v.colKeys buf c) = .ok p → p.Perm (List.range v.numRows) →
      a.sortColWith col swapRows buf lim side c = .ok (gather buf (v.mapCells (sortRowsG p)))) := by
  rw [ha.sortColWith_eq h col hcol swapRows lim side c]
  refine ⟨fun hc => if_neg fun hh => hc hh.1, fun _ hlim => if_neg fun hh => hlim hh.2, fun hc hlim e he => ?_,
    fun hc hlim p hs hp => ?_⟩
  · rw [if_pos ⟨hc, hlim⟩, he]; rfl
  · rw [if_pos ⟨hc, hlim⟩, hs]; exact C17_apply_row_perm v buf h swapRows hsw p hp

theorem C17_sort_by_col (v : VW) (buf : List α) (h : v.Inv buf.length) (a : Acc) (ha : a.Of v buf.length)
    (col : Nat → Res Col)
    (hcol : ∀ c, c < v.numCols → ∃ it, col c = .ok it ∧ it.WF v.numRows buf.length ∧
      it.abs v.numRows = (List.range v.numRows).map fun r => v.pos c r)
    (swapRows : List α → Nat → Nat → Res (List α)) (hsw : SwapRowsSpec v buf.length swapRows)
    (lim : Nat) (hlim : v.numRows ≤ lim) (le : α → α → Bool) (c : Nat) :
    (c < v.numCols →
      a.sortByCol col swapRows buf lim le c =
        .ok (gather buf (v.mapCells (sortRowsG (stablePerm le
          ((List.range v.numRows).filterMap fun r => buf[v.pos c r]?)))))) ∧
    (¬ c < v.numCols → a.sortByCol col swapRows buf lim le c = .error .panic) := by
  obtain ⟨h1, _, _, h4⟩ := C17_sort_col_with v buf h a ha col hcol swapRows hsw lim (sideStable le) c
  exact ⟨fun hc => h4 hc hlim _ rfl (stablePerm_perm_of_length le (C17_key_col_length v buf h c hc)), h1⟩

/-- `sort_unstable_by_col(col, compare)`: for every permutation the side sort may return -/
theorem C17_sort_unstable_by_col (v : VW) (buf : List α) (h : v.Inv buf.length) (a : Acc) (ha : a.Of v buf.length)
    (col : Nat → Res Col)
    (hcol : ∀ c, c < v.numCols → ∃ it, col c = .ok it ∧ it.WF v.numRows buf.length ∧
      it.abs v.numRows = (List.range v.numRows).map fun r => v.pos c r)
    (swapRows : List α → Nat → Nat → Res (List α)) (hsw : SwapRowsSpec v buf.length swapRows)
    (lim : Nat) (hlim : v.numRows ≤ lim) (p : List Nat) (hp : p.Perm (List.range v.numRows)) (c : Nat) :
    (c < v.numCols → a.sortUnstableByCol col swapRows buf lim p c = .ok (gather buf (v.mapCells (sortRowsG p)))) ∧
    (¬ c < v.numCols → a.sortUnstableByCol col swapRows buf lim p c = .error .panic) := by
  obtain ⟨h1, _, _, h4⟩ := C17_sort_col_with v buf h a ha col hcol swapRows hsw lim (sideGiven p) c
  exact ⟨fun hc => h4 hc hlim p (sideGiven_sane_on p _ (by rw [C17_key_col_length v buf h c hc]; exact hp)).1 hp, h1⟩

/-- the key and natural-order variants are the comparator variants with the derived comparator (src/sort.rs:168-170, 216-233) -/
theorem C17_variants_delegate {κ : Type} (a : Acc) (col : Nat → Res Col) (swapRows : List α → Nat → Nat → Res (List α))
    (buf : List α) (lim : Nat) (key : α → κ) (leK : κ → κ → Bool) (leOrd : α → α → Bool) (p : List Nat) (c : Nat) :
    a.sortByColKey col swapRows buf lim key leK c = a.sortByCol col swapRows buf lim (fun x y => leK (key x) (key y)) c ∧
    a.sortColOrd col swapRows buf lim leOrd c = a.sortByCol col swapRows buf lim leOrd c ∧
    a.sortUnstableByColKey col swapRows buf lim p c = a.sortUnstableByCol col swapRows buf lim p c :=
  ⟨rfl, rfl, rfl⟩

/-- the three implementors' `swap_rows` meet `SwapRowsSpec`: the `TooDee` override, the `TooDeeViewMut` override, and the
    trait default (what a third-party implementor gets) -/
theorem C17_swap_rows_spec_owned (m : Mode) (t : TD α) (h : t.Inv) :
    SwapRowsSpec t.asView t.data.length (fun b r1 r2 => ({ t with data := b } : TD α).swapRows m r1 r2) := by
  intro b r1 r2 hb hr1 hr2
  exact (TD.Inv.swapRows_eq (h.with_data b hb) m r1 r2).trans (if_pos ⟨hr1, hr2⟩)

theorem C17_swap_rows_spec_view (m : Mode) (v : VW) (n : Nat) (h : v.Inv n) :
    SwapRowsSpec (α := α) v n (fun b r1 r2 => v.swapRows m b r1 r2) := by
  intro b r1 r2 hb hr1 hr2
  subst hb
  exact (h.swapRows_eq m r1 r2).trans (if_pos ⟨hr1, hr2⟩)

theorem C17_swap_rows_spec_default (m : Mode) (v : VW) (n : Nat) (h : v.Inv n) (a : Acc) (ha : a.Of v n) :
    SwapRowsSpec (α := α) v n (fun b r1 r2 => a.swapRows m b r1 r2) := by
  intro b r1 r2 hb hr1 hr2
  subst hb
  exact (ha.swapRows_eq h m r1 r2).trans (if_pos ⟨hr1, hr2⟩)

/-- a row permutation is a bijection of the cells: every row of the result is one original row, each once -/
theorem C17_rows_bijective (C R : Nat) (p : List Nat) (hp : p.Perm (List.range R)) :
    (∀ c r, c < C → r < R → (sortRowsG p (c, r)).2 < R ∧ (sortRowsG p (c, r)).1 = c) ∧
    (∀ c r r', r < R → r' < R → (sortRowsG p (c, r)).2 = (sortRowsG p (c, r')).2 → r = r') :=
  ⟨fun c r hc hr => ⟨(sortRowsG_cellMap hp c r hc hr).2, rfl⟩,
    fun _ r r' hr hr' he => perm_range_getD_inj hp r r' hr hr' he⟩

/-- the first clause of the property, on the result buffer: the chosen column of the result is the old column permuted by `p`,
    hence ordered whenever `p` orders the keys (stable variant: `p = stablePerm …`, C16_stable_perm; unstable: the sort contract) -/
theorem C17_result_col_sorted (v : VW) (buf : List α) (h : v.Inv buf.length) (p : List Nat)
    (hp : p.Perm (List.range v.numRows)) (c : Nat) (hc : c < v.numCols) (le : α → α → Bool)
    (hsorted : (p.filterMap (((List.range v.numRows).filterMap fun r => buf[v.pos c r]?)[·]?)).Pairwise (fun a b => le a b = true)) :
    ((List.range v.numRows).filterMap fun r => (gather buf (v.mapCells (sortRowsG p)))[v.pos c r]?).Pairwise (fun a b => le a b = true) ∧
    ((List.range v.numRows).filterMap fun r => (gather buf (v.mapCells (sortRowsG p)))[v.pos c r]?) =
      p.filterMap (((List.range v.numRows).filterMap fun r => buf[v.pos c r]?)[·]?) := by
  have heq := keys_permuted hp (C17_key_col_length v buf h c hc) (fun k => buf[v.pos c k]?) _
    (h.colKeys_getElem? hc) (VW.Inv.colKeys_getElem? ((h.gather_mapCells_length _ (sortRowsG_cellMap hp)).symm ▸ h) hc)
    fun k hk => h.gather_mapCells_pos _ (sortRowsG_cellMap hp) hc hk
  refine ⟨?_, heq⟩
  show (v.colKeys (gather buf (v.mapCells (sortRowsG p))) c).Pairwise _
  rw [heq]
  exact hsorted

/-- **The property's first sentence for the stable comparator variant, in one statement**: for a total preorder `le` and a valid
    column, `sort_by_col` succeeds; the result is the old array with whole rows permuted by a permutation `p` of the row indices;
    the chosen column of the result is ordered by `le`; rows whose keys compare equal keep their original top-to-bottom order. -/
theorem C17_sort_by_col_ordered (v : VW) (buf : List α) (h : v.Inv buf.length) (a : Acc) (ha : a.Of v buf.length)
    (col : Nat → Res Col)
    (hcol : ∀ c, c < v.numCols → ∃ it, col c = .ok it ∧ it.WF v.numRows buf.length ∧
      it.abs v.numRows = (List.range v.numRows).map fun r => v.pos c r)
    (swapRows : List α → Nat → Nat → Res (List α)) (hsw : SwapRowsSpec v buf.length swapRows)
    (lim : Nat) (hlim : v.numRows ≤ lim) (le : α → α → Bool)
    (htrans : ∀ a b c, le a b → le b c → le a c) (htotal : ∀ a b, le a b ∨ le b a)
    (c : Nat) (hc : c < v.numCols) :
    ∃ p buf', a.sortByCol col swapRows buf lim le c = .ok buf' ∧ p.Perm (List.range v.numRows) ∧
      buf' = gather buf (v.mapCells (sortRowsG p)) ∧
      (v.colKeys buf' c).Pairwise (fun x y => le x y = true) ∧
      (∀ i j, i < j → j < v.numRows → ∀ x y, buf[v.pos c (p.getD i 0)]? = some x → buf[v.pos c (p.getD j 0)]? = some y →
        le y x = true → p.getD i 0 < p.getD j 0) := by
  have hl := C17_key_col_length v buf h c hc
  have hperm := stablePerm_perm_of_length le hl
  exact ⟨stablePerm le (v.colKeys buf c), _,
    (C17_sort_by_col v buf h a ha col hcol swapRows hsw lim hlim le c).1 hc, hperm, rfl,
    (C17_result_col_sorted v buf h _ hperm c hc le (stablePerm_sorted le htrans htotal _)).1,
    fun i j hij hj => stablePerm_stable le htrans htotal _ (fun k => buf[v.pos c k]?)
      (fun k hk => by rw [h.colKeys_getElem? hc, if_pos (hl ▸ hk)]) i j hij (hl.symm ▸ hj)⟩

/-- the same for the key-function variant: ordered by the keys, rows with equal keys keep their order -/
theorem C17_sort_by_col_key_ordered {κ : Type} (v : VW) (buf : List α) (h : v.Inv buf.length) (a : Acc) (ha : a.Of v buf.length)
    (col : Nat → Res Col)
    (hcol : ∀ c, c < v.numCols → ∃ it, col c = .ok it ∧ it.WF v.numRows buf.length ∧
      it.abs v.numRows = (List.range v.numRows).map fun r => v.pos c r)
    (swapRows : List α → Nat → Nat → Res (List α)) (hsw : SwapRowsSpec v buf.length swapRows)
    (lim : Nat) (hlim : v.numRows ≤ lim) (key : α → κ) (leK : κ → κ → Bool)
    (htrans : ∀ a b c, leK a b → leK b c → leK a c) (htotal : ∀ a b, leK a b ∨ leK b a)
    (c : Nat) (hc : c < v.numCols) :
    ∃ p buf', a.sortByColKey col swapRows buf lim key leK c = .ok buf' ∧ p.Perm (List.range v.numRows) ∧
      buf' = gather buf (v.mapCells (sortRowsG p)) ∧
      (v.colKeys buf' c).Pairwise (fun x y => leK (key x) (key y) = true) ∧
      (∀ i j, i < j → j < v.numRows → ∀ x y, buf[v.pos c (p.getD i 0)]? = some x → buf[v.pos c (p.getD j 0)]? = some y →
        leK (key y) (key x) = true → p.getD i 0 < p.getD j 0) := by
  exact C17_sort_by_col_ordered v buf h a ha col hcol swapRows hsw lim hlim
    (fun x y => leK (key x) (key y)) (fun a b c => htrans (key a) (key b) (key c)) (fun a b => htotal (key a) (key b)) c hc

/-- … and for the natural-order variant `sort_col_ord` (`leOrd` = `T: Ord`): ordered, ties keep their order -/
theorem C17_sort_col_ord_ordered (v : VW) (buf : List α) (h : v.Inv buf.length) (a : Acc) (ha : a.Of v buf.length)
    (col : Nat → Res Col)
    (hcol : ∀ c, c < v.numCols → ∃ it, col c = .ok it ∧ it.WF v.numRows buf.length ∧
      it.abs v.numRows = (List.range v.numRows).map fun r => v.pos c r)
    (swapRows : List α → Nat → Nat → Res (List α)) (hsw : SwapRowsSpec v buf.length swapRows)
    (lim : Nat) (hlim : v.numRows ≤ lim) (leOrd : α → α → Bool)
    (htrans : ∀ a b c, leOrd a b → leOrd b c → leOrd a c) (htotal : ∀ a b, leOrd a b ∨ leOrd b a)
    (c : Nat) (hc : c < v.numCols) :
    ∃ p buf', a.sortColOrd col swapRows buf lim leOrd c = .ok buf' ∧ p.Perm (List.range v.numRows) ∧
      buf' = gather buf (v.mapCells (sortRowsG p)) ∧
      (v.colKeys buf' c).Pairwise (fun x y => leOrd x y = true) ∧
      (∀ i j, i < j → j < v.numRows → ∀ x y, buf[v.pos c (p.getD i 0)]? = some x → buf[v.pos c (p.getD j 0)]? = some y →
        leOrd y x = true → p.getD i 0 < p.getD j 0) :=
  C17_sort_by_col_ordered v buf h a ha col hcol swapRows hsw lim hlim leOrd htrans htotal c hc

end Toodee
