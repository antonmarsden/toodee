import Toodee.Proofs.IterLemmas
/-
  C08 — Row iterators behave as an ideal double-ended exact-size sequence.

  Simulation: a cursor `it` satisfying `WF it k n` stands for the list `it.abs k` of its `k` remaining row windows.
  Every operation of `Rows`/`RowsMut` (one shared transcription, see Impl/Iter.lean) returns exactly what the ideal
  sequence returns, never panics or hits `ub`, and leaves a well-formed cursor standing for the ideal remainder — for
  every `n < 2^64` argument, in both build modes.  `rows()`/`rows_mut()` of an owned array or of a view start
  well-formed and stand for the `num_rows` row windows `⟨pos 0 r, num_cols⟩`, top to bottom; these windows are pairwise
  disjoint (so `rows_mut()` hands out disjoint slices of the root buffer).

  The hypotheses `j < WORD` and `o.small` are there because the property speaks of arguments up to `usize::MAX`; the proofs
  do not use them.
  Besides the citations of IterLemmas: `C08_next_back_mut_eq` (`RowsMut::next_back`, the one method of the pair with a text of its
  own, returns what the shared text returns) and `C08_counting` (item-or-none and the number left depend on the length alone).
-/
namespace Toodee
variable {α : Type}

theorem C08_next (it : Rows) (k n : Nat) (h : it.WF k n) :
    ∃ it', it.next = .ok ((Seq.next (it.abs k)).1, it') ∧ it'.WF (k - 1) n ∧
      it'.abs (k - 1) = (Seq.next (it.abs k)).2 :=
  (Rows.next_spec h).imp fun _ h => ⟨h.1, h.2.wf, h.2.abs⟩

theorem C08_next_back (m : Mode) (it : Rows) (k n : Nat) (h : it.WF k n) :
    ∃ it', it.nextBack m = .ok ((Seq.nextBack (it.abs k)).1, it') ∧ it'.WF (k - 1) n ∧
      it'.abs (k - 1) = (Seq.nextBack (it.abs k)).2 :=
  (Rows.nextBack_spec h m).imp fun _ h => ⟨h.1, h.2.wf, h.2.abs⟩

theorem C08_nth (m : Mode) (it : Rows) (k n : Nat) (h : it.WF k n) (j : Nat) (hj : j < WORD) :
    ∃ it', it.nth m j = .ok ((Seq.nth (it.abs k) j).1, it') ∧ it'.WF (k - (j + 1)) n ∧
      it'.abs (k - (j + 1)) = (Seq.nth (it.abs k) j).2 :=
  have _ := hj; (Rows.nth_spec h m j).imp fun _ h => ⟨h.1, h.2.wf, h.2.abs⟩

theorem C08_nth_back (m : Mode) (it : Rows) (k n : Nat) (h : it.WF k n) (j : Nat) (hj : j < WORD) :
    ∃ it', it.nthBack m j = .ok ((Seq.nthBack (it.abs k) j).1, it') ∧ it'.WF (k - (j + 1)) n ∧
      it'.abs (k - (j + 1)) = (Seq.nthBack (it.abs k) j).2 :=
  have _ := hj; (Rows.nthBack_spec h m j).imp fun _ h => ⟨h.1, h.2.wf, h.2.abs⟩

/-- `len()`, `size_hint()`, `count()` -/
theorem C08_len (m : Mode) (it : Rows) (k n : Nat) (h : it.WF k n) : it.sizeHint m = .ok k :=
  Rows.sizeHint_spec h m

theorem C08_last (m : Mode) (it : Rows) (k n : Nat) (h : it.WF k n) :
    it.last m = .ok (Seq.last (it.abs k)) :=
  Rows.last_spec h m

/-- `fold` visits exactly the remaining rows in order; `rfold` in reverse order -/
theorem C08_fold (it : Rows) (k n : Nat) (h : it.WF k n) (fuel : Nat) (hf : k < fuel) :
    it.collect fuel = .ok (it.abs k) :=
  Rows.collect_spec h fuel hf

theorem C08_rfold (m : Mode) (it : Rows) (k n : Nat) (h : it.WF k n) (fuel : Nat) (hf : k < fuel) :
    it.collectBack m fuel = .ok (it.abs k).reverse :=
  Rows.collectBack_spec h m fuel hf

/-- any interleaving of `next`, `next_back`, `nth`, `nth_back`, `len`: the whole trace equals the ideal sequence's -/
theorem C08_word (m : Mode) (it : Rows) (k n : Nat) (h : it.WF k n) (w : List Seq.Op)
    (hw : ∀ o ∈ w, o.small) :
    ∃ it' k', it.run m w = .ok ((Seq.run (it.abs k) w).1, it') ∧ it'.WF k' n ∧
      it'.abs k' = (Seq.run (it.abs k) w).2 :=
  have _ := hw; (Rows.run_spec h m w).imp fun _ h => h.imp fun _ h => ⟨h.1, h.2.wf, h.2.abs⟩

/-- `rows()` / `rows_mut()` of an owned array -/
theorem C08_rows_owned (t : TD α) (h : t.Inv) :
    t.rows.WF t.numRows t.data.length ∧
    t.rows.abs t.numRows = (List.range t.numRows).map fun r => ⟨t.pos 0 r, t.numCols⟩ :=
  h.rows_cursor

/-- `rows()` / `rows_mut()` of a view or mutable view -/
theorem C08_rows_view (m : Mode) (v : VW) (n : Nat) (h : v.Inv n) :
    ∃ it, v.rows m = .ok it ∧ it.WF v.numRows n ∧
      it.abs v.numRows = (List.range v.numRows).map fun r => ⟨v.pos 0 r, v.numCols⟩ :=
  ⟨_, VW.rows_ok m h.stride, h.rows_cursor⟩

/-- the rows handed out are pairwise disjoint windows inside the buffer -/
theorem C08_rows_disjoint (it : Rows) (k n : Nat) (h : it.WF k n) :
    (it.abs k).Pairwise Win.Disjoint ∧ ∀ w ∈ it.abs k, w.off + w.len ≤ n ∧ w.len = it.cols :=
  ⟨Rows.abs_pairwise_disjoint it k, h.abs_inside⟩

/-- `next_back` is the one method where the text of `RowsMut` differs from that of `Rows` (it computes the split point a
    second time), so it is transcribed separately as `Rows.nextBackMut`, and that is what the driver runs for a mutable cursor
    (Driver/Machine.lean).  It computes the same result as the shared transcription `Rows.nextBack`, so every C08 theorem about
    `nextBack` is a theorem about the mutable cursor's own text. -/
theorem C08_next_back_mut_eq (m : Mode) (it : Rows) : it.nextBackMut m = it.nextBack m :=
  Rows.nextBackMut_eq m it

/-- **the ideal sequence by counting** (what the oracle evaluates for arrays of up to `usize::MAX` zero-sized cells, where no list
    can be enumerated): for every sequence and operation, whether an item is yielded and how many items remain are functions of
    the length alone (`Seq.cstep`), and `len` reports that length -/
theorem C08_counting {ι : Type} (l : List ι) (op : Seq.Op) :
    (Seq.step l op).2.length = (Seq.cstep l.length op).2 ∧
    (match (Seq.step l op).1 with
     | .item x => x.isSome = (Seq.cstep l.length op).1
     | .num k => k = l.length ∧ (Seq.cstep l.length op).1 = false) := by
  cases op with
  | next =>
    cases l <;> simp [Seq.step, Seq.cstep, Seq.next]
  | nextBack =>
    refine ⟨List.length_dropLast, ?_⟩
    cases l with
    | nil => rfl
    | cons a t => simp [Seq.step, Seq.cstep, Seq.nextBack]
  | nth n =>
    by_cases hn : n < l.length <;> simp [Seq.step, Seq.cstep, Seq.nth, hn] <;> omega
  | nthBack n =>
    by_cases hn : n < l.length <;> simp [Seq.step, Seq.cstep, Seq.nthBack, hn] <;> omega
  | len => simp [Seq.step, Seq.cstep]

/-- non-vacuity: the row cursor of a 2x2 window (stride 3, offset 1) of an 8-cell buffer is well-formed with 2 rows left and
    stands for the windows `⟨1,2⟩`, `⟨4,2⟩` -/
example : (⟨⟨1, 5⟩, 2, 1⟩ : Rows).WF 2 8 := ⟨by decide, by decide, by decide, by decide, by decide⟩
example : VW.rows .debug ⟨⟨1, 5⟩, 2, 2, 3⟩ = .ok ⟨⟨1, 5⟩, 2, 1⟩ ∧
    (⟨⟨1, 5⟩, 2, 1⟩ : Rows).abs 2 = [⟨1, 2⟩, ⟨4, 2⟩] := ⟨rfl, rfl⟩
/-- non-vacuity of `C08_next`: on that cursor `next` yields the first row window and leaves a well-formed cursor -/
example : ∃ it', (⟨⟨1, 5⟩, 2, 1⟩ : Rows).next = .ok (some ⟨1, 2⟩, it') ∧ it'.WF 1 8 := by
  obtain ⟨it', h1, h2, _⟩ := C08_next ⟨⟨1, 5⟩, 2, 1⟩ 2 8 ⟨by decide, by decide, by decide, by decide, by decide⟩
  exact ⟨it', h1, h2⟩
/-- non-vacuity of `C08_rows_owned`: `rows()` of a concrete 3x2 array stands for its two row windows -/
example : (TD.rows (⟨[1, 2, 3, 4, 5, 6], 2, 3⟩ : TD Nat)).abs 2 = [⟨0, 3⟩, ⟨3, 3⟩] :=
  (C08_rows_owned (⟨[1, 2, 3, 4, 5, 6], 2, 3⟩ : TD Nat) ⟨rfl, by decide, by decide⟩).2

end Toodee
