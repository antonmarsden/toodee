import Toodee.Proofs.Index
import Toodee.Proofs.IterLemmas
/-
  C02 — Checked access reaches exactly the addressed cell or panics.

  For a receiver satisfying its invariant and any coordinate `(col,row)` (every component `< 2^64`):
  * in range: `x[(col,row)]`, `x[row][col]`, `x.col(col)[row]`, the `_mut` forms and the unchecked getters all return the one
    position `pos col row`, which for an owned array is `row*num_cols + col`, and that position is inside the buffer;
  * out of range: every *checked* accessor panics (never `ub`, and no position is produced).
  Both build modes (`m`), including coordinates whose products wrap around in release builds.

  "The `_mut` forms": the model has one definition per distinct Rust text.  `col_mut`, `get_unchecked_mut`, `get_unchecked_row_mut`
  and a view's `IndexMut` repeat the text of the shared form and have no definition of their own (the docstrings in Impl/TooDee.lean
  and Impl/View.lean give both line ranges); only the owned array's `IndexMut` forms are written out (`TD.indexRowMut`,
  `TD.indexCoordMut`).  The `col(c)[r]` clauses cite `col_index_eq` / `Col.index_of_abs` (Proofs/IterLemmas.lean).
-/
namespace Toodee
variable {α : Type}

/-- view / mutable view over a root buffer of `n` cells, valid coordinate -/
theorem C02_view_valid (m : Mode) (v : VW) (n : Nat) (h : v.Inv n) (col row : Nat)
    (hc : col < v.numCols) (hr : row < v.numRows) :
    v.pos col row < n ∧
    v.indexCoord m col row = .ok (v.pos col row) ∧
    v.getUnchecked m col row = .ok (v.pos col row) ∧
    v.indexRow m row = .ok ⟨v.pos 0 row, v.numCols⟩ ∧
    v.getUncheckedRow m row = .ok ⟨v.pos 0 row, v.numCols⟩ ∧
    (⟨v.pos 0 row, v.numCols⟩ : Win).index col = .ok (v.pos col row) ∧
    (∃ it, v.col m col = .ok it ∧ it.index m row = .ok (v.pos col row)) := by
  exact ⟨h.pos_lt hc hr, h.indexCoord_ok m hc hr, h.getUnchecked_ok m hc hr, h.indexRow_ok m hr, h.getUncheckedRow_ok m hr,
    (v.rowWin_index col row).trans (if_pos hc),
    (h.col_spec m col hc).imp fun _ hit => ⟨hit.1, (Col.index_of_abs hit.2.1 m hit.2.2 row).trans (if_pos hr)⟩⟩

/-- view / mutable view, invalid coordinate -/
theorem C02_view_invalid (m : Mode) (v : VW) (n : Nat) (h : v.Inv n) (col row : Nat)
    (hcw : col < WORD) (hrw : row < WORD) (hbad : ¬ (col < v.numCols ∧ row < v.numRows)) :
    v.indexCoord m col row = .error .panic ∧
    (v.indexRow m row >>= fun w => w.index col) = .error .panic ∧
    (v.col m col >>= fun it => it.index m row) = .error .panic := by
  have _ := hcw; have _ := hrw      -- the coordinates are `usize`s; no step needs it, not even the wrapping product (`Col.index_panic`)
  refine ⟨(VW.indexCoord_guard m v col row).trans (if_neg hbad), ?_,
    (col_index_eq m (h.col_spec m) (VW.col_panic m v) col row).trans (if_neg hbad)⟩
  rw [h.indexRow_eq m]
  by_cases hr : row < v.numRows
  · rw [if_pos hr, ok_bind, VW.rowWin_index, if_neg fun hc => hbad ⟨hc, hr⟩]
  · rw [if_neg hr]; rfl

/-- owned array, valid coordinate: the view theorem at `t.asView` -/
theorem C02_owned_valid (m : Mode) (t : TD α) (h : t.Inv) (col row : Nat)
    (hc : col < t.numCols) (hr : row < t.numRows) :
    t.pos col row < t.data.length ∧
    t.indexCoord m col row = .ok (t.pos col row) ∧
    t.indexCoordMut m col row = .ok (t.pos col row) ∧
    t.getUnchecked m col row = .ok (t.pos col row) ∧
    t.indexRow m row = .ok ⟨t.pos 0 row, t.numCols⟩ ∧
    t.indexRowMut m row = .ok ⟨t.pos 0 row, t.numCols⟩ ∧
    t.getUncheckedRow m row = .ok ⟨t.pos 0 row, t.numCols⟩ ∧
    (⟨t.pos 0 row, t.numCols⟩ : Win).index col = .ok (t.pos col row) ∧
    (∃ it, t.col m col = .ok it ∧ it.index m row = .ok (t.pos col row)) := by
  have hv := h.asView
  have hpos := t.asView_pos
  obtain ⟨h1, h2, h3, h4, h5, h6, _⟩ := C02_view_valid m t.asView _ hv col row hc hr
  simp only [hpos] at h1 h2 h3 h4 h5 h6
  rw [TD.indexCoord_asView, TD.indexCoordMut_asView, TD.getUnchecked_asView, TD.indexRow_asView, TD.indexRowMut_asView,
    TD.getUncheckedRow_asView]
  exact ⟨h1, h2, h2, h3, h4, h4, h5, h6,
    (h.col_spec m col hc).imp fun _ hit => ⟨hit.1, (Col.index_of_abs hit.2.1 m hit.2.2 row).trans (if_pos hr)⟩⟩

/-- owned array, invalid coordinate: every checked accessor panics -/
theorem C02_owned_invalid (m : Mode) (t : TD α) (h : t.Inv) (col row : Nat)
    (hcw : col < WORD) (hrw : row < WORD) (hbad : ¬ (col < t.numCols ∧ row < t.numRows)) :
    t.indexCoord m col row = .error .panic ∧
    t.indexCoordMut m col row = .error .panic ∧
    (t.indexRow m row >>= fun w => w.index col) = .error .panic ∧
    (t.indexRowMut m row >>= fun w => w.index col) = .error .panic ∧
    (t.col m col >>= fun it => it.index m row) = .error .panic := by
  obtain ⟨h1, h2, _⟩ := C02_view_invalid m t.asView _ h.asView col row hcw hrw hbad
  rw [TD.indexCoord_asView, TD.indexCoordMut_asView, TD.indexRow_asView, TD.indexRowMut_asView]
  exact ⟨h1, h1, h2, h2, (col_index_eq m (h.col_spec m) (TD.col_panic m t) col row).trans (if_neg hbad)⟩

/-- distinct valid coordinates denote distinct cells (so "exactly the addressed cell") -/
theorem C02_pos_injective (v : VW) (n : Nat) (h : v.Inv n) (c1 r1 c2 r2 : Nat)
    (h1 : c1 < v.numCols) (h2 : c2 < v.numCols) (_ : r1 < v.numRows) (_ : r2 < v.numRows)
    (he : v.pos c1 r1 = v.pos c2 r2) : c1 = c2 ∧ r1 = r2 :=
  h.pos_inj h1 h2 he

/-- an owned array is the view `(off 0, stride = num_cols)` of its buffer: same positions -/
theorem C02_owned_as_view (t : TD α) (h : t.Inv) :
    t.asView.Inv t.data.length ∧ ∀ c r, t.asView.pos c r = t.pos c r :=
  ⟨h.asView, t.asView_pos⟩

/-- non-vacuity: a concrete 3-column, 2-row array has the invariant; its cell `(2,1)` is position `1*3+2 = 5`
    (`C02_owned_valid` applied to it) and the coordinate `(3,0)` panics (`C02_owned_invalid`) -/
example : TD.indexCoord .release (⟨[1, 2, 3, 4, 5, 6], 2, 3⟩ : TD Nat) 2 1 = .ok 5 :=
  (C02_owned_valid .release _ ⟨rfl, by decide, by decide⟩ 2 1 (by decide) (by decide)).2.1
example : TD.indexCoord .release (⟨[1, 2, 3, 4, 5, 6], 2, 3⟩ : TD Nat) 3 0 = .error .panic :=
  (C02_owned_invalid .release _ ⟨rfl, by decide, by decide⟩ 3 0 (by decide) (by decide) (by decide)).1
/-- non-vacuity: a 2x2 window (stride 3, offset 1) of an 8-cell buffer has the view invariant; its cell `(1,1)` is root
    position `1 + 1*3 + 1 = 5`, also through `col(1)[1]` (concrete computations); `(2,0)` panics (`C02_view_invalid`) -/
example : (⟨⟨1, 5⟩, 2, 2, 3⟩ : VW).Inv 8 ∧ VW.indexCoord .debug ⟨⟨1, 5⟩, 2, 2, 3⟩ 1 1 = .ok 5 ∧
    (VW.col .debug ⟨⟨1, 5⟩, 2, 2, 3⟩ 1 >>= fun it => it.index .debug 1) = .ok 5 :=
  ⟨⟨by decide, by decide, by decide, by decide, by decide, by decide⟩, by rfl, by rfl⟩
example : VW.indexCoord .release ⟨⟨1, 5⟩, 2, 2, 3⟩ 2 0 = .error .panic :=
  (C02_view_invalid .release _ 8 ⟨by decide, by decide, by decide, by decide, by decide, by decide⟩ 2 0
    (by decide) (by decide) (by decide)).1

end Toodee
