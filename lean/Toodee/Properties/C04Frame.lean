import Toodee.Proofs.CellsLemmas
import Toodee.Proofs.GridLemmas
/-
  C04 — Operations on a mutable view never touch cells outside it (general part).

  Every in-place operation is proved (C13–C17) to produce `gather buf (v.mapCells g)` (pure permutations: swaps, sorts,
  translate, flips) or `v.updCells buf h` (overwrites: fill, copies, indexed writes).  The theorems here say what those two
  forms mean: positions that are not cells of the view keep their content, and cell `(c,r)` gets exactly the content the
  cell function prescribes — the *same* cell function `g`/`h` as for an owned array (`t.asView`), which is the second
  sentence of the property.

  The file also defines the vocabulary later files use for "the cells a view shows, as an owned array": `VW.cellsOf` (the data) and
  `VW.ownedShape` (that array seen as a view of its own buffer), with `VW.cellsOf_facts`, `VW.ownedShape_pos`, `VW.ownedShape_inv`.
-/
namespace Toodee
variable {α : Type}

/-- positions and coordinates of a view are in bijection -/
theorem C04_coord (v : VW) (n : Nat) (h : v.Inv n) :
    (∀ c r, c < v.numCols → r < v.numRows → v.coord? (v.pos c r) = some (c, r) ∧ v.pos c r < n) ∧
    (∀ p c r, v.coord? p = some (c, r) → p = v.pos c r ∧ c < v.numCols ∧ r < v.numRows) :=
  ⟨fun _ _ hc hr => ⟨h.coord?_pos hc hr, h.pos_lt hc hr⟩, fun _ _ _ hp => VW.coord?_eq_some hp⟩

/-- a cell permutation of the view: length kept, frame untouched, cell `(c,r)` receives old cell `g (c,r)` -/
theorem C04_frame_perm (v : VW) (buf : List α) (h : v.Inv buf.length) (g : Nat × Nat → Nat × Nat)
    (hg : ∀ c r, c < v.numCols → r < v.numRows → (g (c, r)).1 < v.numCols ∧ (g (c, r)).2 < v.numRows) :
    (gather buf (v.mapCells g)).length = buf.length ∧
    (∀ p, v.coord? p = none → (gather buf (v.mapCells g))[p]? = buf[p]?) ∧
    (∀ c r, c < v.numCols → r < v.numRows →
      (gather buf (v.mapCells g))[v.pos c r]? = buf[v.pos (g (c, r)).1 (g (c, r)).2]?) :=
  ⟨h.gather_mapCells_length g hg, fun _ hp => h.gather_mapCells_of_none g hg hp,
    fun _ _ hc hr => h.gather_mapCells_pos g hg hc hr⟩

/-- an overwrite of cells of the view: length kept, frame untouched, cell `(c,r)` becomes `h (c,r)` if that is `some` -/
theorem C04_frame_upd (v : VW) (buf : List α) (h : v.Inv buf.length) (f : Nat × Nat → Option α) :
    (v.updCells buf f).length = buf.length ∧
    (∀ p, v.coord? p = none → (v.updCells buf f)[p]? = buf[p]?) ∧
    (∀ c r, c < v.numCols → r < v.numRows →
      (v.updCells buf f)[v.pos c r]? = (match f (c, r) with | some x => some x | none => buf[v.pos c r]?)) :=
  ⟨VW.updCells_length v buf f, fun _ hp => VW.updCells_of_none buf f hp,
    fun _ _ hc hr => h.updCells_pos f hc hr⟩

/-- two position maps that agree on the buffer give the same result -/
theorem C04_gather_congr (buf : List α) (f g : Nat → Nat) (hfg : ∀ p, p < buf.length → f p = g p) :
    gather buf f = gather buf g :=
  gather_congr buf f g hfg

/-- the identity permutation changes nothing -/
theorem C04_gather_id (v : VW) (buf : List α) : gather buf (v.mapCells id) = buf :=
  gather_mapCells_eq_self buf id fun _ _ _ _ => rfl

/-- what mutable iteration hands out are cells of the view: every position yielded by `rows_mut()`, `col_mut(c)`,
    `cells_mut()` on a view is a cell of that view (so writes through them stay inside) -/
theorem C04_iter_positions (v : VW) (n : Nat) (h : v.Inv n) :
    (∀ r, r < v.numRows → ∀ p ∈ (v.rowWin r).positions, ∃ c, c < v.numCols ∧ p = v.pos c r) ∧
    (∀ c r, c < v.numCols → r < v.numRows → v.coord? (v.pos c r) ≠ none) := by
  constructor
  · intro r _ p hp
    simp only [Win.positions, VW.rowWin, List.mem_map, List.mem_range] at hp
    obtain ⟨c, hc, rfl⟩ := hp
    exact ⟨c, hc, VW.pos_zero_add v c r⟩
  · intro c r hc hr
    rw [h.coord?_pos hc hr]; simp

/-- the cells of a view, row-major: the data of the owned array `TooDee::from(view)` (C20_from_view) -/
def VW.cellsOf (v : VW) (buf : List α) : List α :=
  ((List.range v.numRows).map fun r => (List.range v.numCols).filterMap fun c => buf[v.pos c r]?).flatten

/-- the owned array holding the same cells, seen as a view of its own buffer -/
def VW.ownedShape (v : VW) : VW := ⟨⟨0, v.numCols * v.numRows⟩, v.numCols, v.numRows, v.numCols⟩

/-- length of the copied-out cells, and cell `(c,r)` of the copy is cell `(c,r)` of the view: `cellsOf` is `(v.grid buf).flatten` -/
theorem VW.cellsOf_facts (v : VW) (buf : List α) (h : v.Inv buf.length) :
    (v.cellsOf buf).length = v.numCols * v.numRows ∧
    ∀ c r, c < v.numCols → r < v.numRows → (v.cellsOf buf)[r * v.numCols + c]? = buf[v.pos c r]? :=
  ⟨h.grid_flatten_length, fun _ _ hc hr => h.grid_flatten_getElem? hc hr⟩

theorem VW.ownedShape_pos (v : VW) (c r : Nat) : v.ownedShape.pos c r = r * v.numCols + c := by
  simp [VW.ownedShape, VW.pos]

theorem VW.ownedShape_inv {v : VW} {n : Nat} (h : v.Inv n) : v.ownedShape.Inv (v.numCols * v.numRows) :=
  VW.Inv.full_width h.zero (Nat.le_of_eq (Nat.zero_add _)) h.area_word

/-- a list is the owned copy of the view's cells when it has their number and agrees with them cell by cell -/
theorem VW.cellsOf_eq_of_cells (v : VW) (buf : List α) (h : v.Inv buf.length) {d : List α}
    (hd : d.length = v.numCols * v.numRows)
    (hcell : ∀ c r, c < v.numCols → r < v.numRows → d[v.ownedShape.pos c r]? = buf[v.pos c r]?) :
    v.cellsOf buf = d := by
  obtain ⟨hl, hg⟩ := v.cellsOf_facts buf h
  refine ext_cells hl hd fun c r hc hr => ?_
  rw [hg c r hc hr, ← VW.ownedShape_pos, hcell c r hc hr]

/-- the owned shape is a valid receiver over the copied cells -/
theorem C04_owned_shape_inv (v : VW) (buf : List α) (h : v.Inv buf.length) :
    v.ownedShape.Inv (v.cellsOf buf).length ∧ (v.cellsOf buf).length = v.numCols * v.numRows := by
  obtain ⟨hl0, _⟩ := v.cellsOf_facts buf h
  exact ⟨hl0 ▸ VW.ownedShape_inv h, hl0⟩

/-- **Inside the rectangle the effect is exactly the effect the same operation has on an owned array holding the same cells**
    — for every cell permutation: applying `g` through the view and then copying the view out equals copying the view out and
    applying the same `g` to the owned array. -/
theorem C04_same_effect_perm (v : VW) (buf : List α) (h : v.Inv buf.length) (g : Nat × Nat → Nat × Nat)
    (hg : ∀ c r, c < v.numCols → r < v.numRows → (g (c, r)).1 < v.numCols ∧ (g (c, r)).2 < v.numRows) :
    v.cellsOf (gather buf (v.mapCells g)) = gather (v.cellsOf buf) (v.ownedShape.mapCells g) := by
  obtain ⟨hl0, hg0⟩ := v.cellsOf_facts buf h
  obtain ⟨hlen, _, hcell⟩ := C04_frame_perm v buf h g hg
  obtain ⟨hlen2, _, hcell2⟩ := C04_frame_perm v.ownedShape (v.cellsOf buf) (C04_owned_shape_inv v buf h).1 g hg
  refine v.cellsOf_eq_of_cells _ (hlen.symm ▸ h) (hlen2.trans hl0) fun c r hc hr => ?_
  rw [hcell2 c r hc hr, hcell c r hc hr, VW.ownedShape_pos, hg0 _ _ (hg c r hc hr).1 (hg c r hc hr).2]

/-- … and for every overwrite -/
theorem C04_same_effect_upd (v : VW) (buf : List α) (h : v.Inv buf.length) (f : Nat × Nat → Option α) :
    v.cellsOf (v.updCells buf f) = v.ownedShape.updCells (v.cellsOf buf) f := by
  obtain ⟨hl0, hg0⟩ := v.cellsOf_facts buf h
  obtain ⟨hlen, _, hcell⟩ := C04_frame_upd v buf h f
  obtain ⟨hlen2, _, hcell2⟩ := C04_frame_upd v.ownedShape (v.cellsOf buf) (C04_owned_shape_inv v buf h).1 f
  refine v.cellsOf_eq_of_cells _ (hlen.symm ▸ h) (hlen2.trans hl0) fun c r hc hr => ?_
  rw [hcell2 c r hc hr, hcell c r hc hr, VW.ownedShape_pos, hg0 c r hc hr]

end Toodee
