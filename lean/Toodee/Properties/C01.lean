import Toodee.Proofs.HistoryLemmas
import Toodee.Properties.C20
import Toodee.Properties.C09
/-
  C01 — Array dimensions always agree with its contents.

  After **any** history of safe public operations on an owned array — construction, insert/remove/push/pop of rows and
  columns with any iterator script and any drain consumption (dropped or leaked), clear, swap_dimensions, capacity calls,
  `mem::take`+`into_iter`, every in-place algorithm as dispatched on `TooDee` (including indexed writes, every sort variant with
  any — possibly panicking — comparator, `copy_within`, `copy_from_toodee`), and calls rejected with a panic — in both build
  modes, for every `Vec` capacity limit and side-table limit:
  * the shape invariant holds (`data.len() = num_cols*num_rows`, both dimensions zero or neither);
  * no call ends in undefined behaviour (`hres`);
  * `rows()`, `cells()` and every `col(c)` report lengths `num_rows`, `num_cols*num_rows`, `num_rows`;
  * the array's rows-of-cells (`TD.grid`) follow the plain model `grun` driven by the same history
    (`gstep` leaves the result open only for iterator scripts that panic or lie about their length, C11).
  This is the composition of the per-operation theorems C06, C07, C11–C17.

  The theorems, by clause (each a field of `hstep_ok` / `hrun_ok`, Proofs/HistoryLemmas, unless said otherwise):
  * invariant: `C01_step_inv` (one call), `C01_history_inv` (any history), `C01_history_from_default`;
  * no undefined behaviour: `C01_no_ub` (one call), `C01_history_no_ub` (every call of a history);
  * lengths: `C01_lens` (from C08, C09, C10);
  * refinement: `C01_step_refines`, `C01_history_refines` (the array at the END of a history whose every step meets `HOp.fits`
    — `hfits` — shows the plain model's rows of cells, whenever the plain model prescribes them); `C01_grid_faithful` (`TD.grid`
    loses nothing: dimensions and buffer can be read off it);
  * outcomes: `C01_inplace_outcome` (an in-place call returns `ok` exactly when the plain model accepts it, and a rejected one
    leaves the array alone); `C01_block_prefix` (a block of calls on a view stops at its first failing call);
  * outside the side condition: `C01_over_capacity_rejected` (`HOp.overCap`: rejected with a panic, array untouched),
    `C01_fits_or_over_capacity` (a call that is not a block on a view is in `fits` or in `overCap`).
  Not proved here: the refinement without `hfits`; for a block on a view that sorts a line longer than the side table (neither
  `fits` nor `overCap`) only the invariant, no-`ub` and conservation (C05); where the plain model prescribes nothing (`none`: an
  iterator script that panics or lies, a side sort that returns no permutation) likewise; the outcome (`ok` / panic) of the
  structural calls is stated per call in C06 / C07 (`*_ok`, `*_reject`), not along histories; the refinement at an inner step of a
  history is the theorem for that prefix (`hrun_append`), whose `hfits` has to be supplied for the prefix.
-/
namespace Toodee
variable {α : Type}

/-- one step preserves the shape invariant -/
theorem C01_step_inv (e : HEnv) (he : e.ok) (t : TD α) (h : t.Inv) (op : HOp α) (hop : op.wf) :
    (hstep e t op).Inv :=
  (hstep_ok e h he op hop).inv

/-- every reachable state satisfies the shape invariant -/
theorem C01_history_inv (e : HEnv) (he : e.ok) (t : TD α) (h : t.Inv) (ops : List (HOp α)) (hops : ∀ op ∈ ops, op.wf) :
    (hrun e t ops).Inv :=
  (hrun_ok e h he ops hops).inv

/-- every state reachable from `default()` / `with_capacity(n)` satisfies the shape invariant -/
theorem C01_history_from_default (e : HEnv) (he : e.ok) (ops : List (HOp α)) (hops : ∀ op ∈ ops, op.wf) :
    (hrun e (TD.default : TD α) ops).Inv :=
  C01_history_inv e he _ C20_default.1 ops hops

/-- no safe call ends in undefined behaviour (or exhausts a fuelled loop of the model), whatever its arguments -/
theorem C01_no_ub (e : HEnv) (he : e.ok) (t : TD α) (h : t.Inv) (op : HOp α) (hop : op.wf) :
    hres e t op ≠ .error .ub ∧ hres e t op ≠ .error .fuel :=
  (hstep_ok e h he op hop).res

/-- no call of any history ends in undefined behaviour -/
theorem C01_history_no_ub (e : HEnv) (he : e.ok) (t : TD α) (h : t.Inv) (ops pre : List (HOp α)) (op : HOp α)
    (hops : ∀ o ∈ ops, o.wf) (hpre : pre ++ [op] <+: ops) :
    hres e (hrun e t pre) op ≠ .error .ub ∧ hres e (hrun e t pre) op ≠ .error .fuel := by
  have hsub : ∀ o ∈ pre ++ [op], o.wf := fun o ho => hops o (hpre.subset ho)
  have hinv := C01_history_inv e he t h pre (fun o ho => hsub o (List.mem_append_left _ ho))
  exact C01_no_ub e he _ hinv op (hsub op (List.mem_append_right _ (List.mem_singleton_self op)))

/-- the lengths reported by the three iterator families agree with the dimensions -/
theorem C01_lens (m : Mode) (t : TD α) (h : t.Inv) :
    t.rows.sizeHint m = .ok t.numRows ∧
    (Flat.new t.rows).sizeHint m = .ok (t.numCols * t.numRows) ∧
    ∀ c, c < t.numCols → ∃ it, t.col m c = .ok it ∧ it.sizeHint m = .ok t.numRows := by
  refine ⟨C08_len m _ _ _ (C08_rows_owned t h).1, ?_, ?_⟩
  · obtain ⟨hwf, habs, _⟩ := C10_cells_owned t h
    rw [C10_len m _ _ _ hwf, habs, List.length_range, h.len]
  · intro c hc
    have hcw := h.cols_word
    obtain ⟨it, e, hwf, _⟩ := (C09_col_owned m t h c (by omega)).1 hc
    exact ⟨it, e, C09_len m it _ _ hwf⟩

/-- one step agrees with the rows-of-cells model wherever that model prescribes the result -/
theorem C01_step_refines (e : HEnv) (he : e.ok) (t : TD α) (h : t.Inv) (op : HOp α) (hop : op.wf) (hfit : op.fits e t)
    (g' : List (List α)) (hg : gstep t.grid op = some g') :
    (hstep e t op).grid = g' :=
  (hstep_ok e h he op hop).grid hfit g' hg

/-- **the array and the plain model stay in step along any history** -/
theorem C01_history_refines (e : HEnv) (he : e.ok) (t : TD α) (h : t.Inv) (ops : List (HOp α))
    (hops : ∀ op ∈ ops, op.wf) (hf : hfits e t ops) (g' : List (List α)) (hg : grun t.grid ops = some g') :
    (hrun e t ops).grid = g' :=
  (hrun_ok e h he ops hops).grid hf g' hg

/-- the grid determines the array (so "same grid" is "same observable content"): dimensions and data can be read off it -/
theorem C01_grid_faithful (t : TD α) (h : t.Inv) :
    t.numRows = t.grid.length ∧ t.numCols = gcols t.grid ∧ t.data = t.grid.flatten :=
  ⟨h.grid_length.symm, (h.gcols_grid).symm, h.data_eq_flatten_grid⟩

/-- **the outcome of an in-place call is the plain model's acceptance**: on an owned array a call succeeds exactly when its
    arguments are valid for the grid and the caller code inside a sort does not panic (`MOp.gok`); otherwise it panics -/
theorem C01_inplace_outcome (e : HEnv) (he : e.ok) (t : TD α) (h : t.Inv) (op : MOp α) (hop : (HOp.inplace op).wf)
    (hfit : (HOp.inplace op).fits e t) :
    (op.gok t.grid = true → hres e t (.inplace op) = .ok ()) ∧
    (op.gok t.grid = false → hres e t (.inplace op) = .error .panic ∧ hstep e t (.inplace op) = t) := by
  have _ := he   -- not needed
  have ha := inplace_agrees h e.lim op hop.1 hop.2
  rw [hres_inplace, hstep_inplace, C13_run_owned e.m e.lim t h op hop.1 hop.2]
  cases hsp : op.spec t.asView e.lim t.data with
  | error er =>
    rw [hsp] at ha
    obtain ⟨rfl, hk⟩ := ha
    exact ⟨fun hk' => absurd ((hk (HOp.fitsLim_of_fits hfit)).symm.trans hk') nofun, fun _ => ⟨rfl, rfl⟩⟩
  | ok d =>
    rw [hsp] at ha
    exact ⟨fun _ => rfl, fun hk => absurd (ha.1.symm.trans hk) nofun⟩

/-- **a block of calls on a view that is cut short**: when the calls `pre` succeed and the next call `bad` fails, the array is
    exactly as after the block `pre` alone, whatever follows `bad` in the block -/
theorem C01_block_prefix (e : HEnv) (he : e.ok) (t : TD α) (h : t.Inv) (s w : Nat × Nat) (pre rest : List (MOp α)) (bad : MOp α)
    (hop : (HOp.viaView s w (pre ++ bad :: rest)).wf)
    (hpre : hres e t (.viaView s w pre) = .ok ())
    (hbad : hres e (hstep e t (.viaView s w pre)) (.viaView s w [bad]) ≠ .ok ()) :
    hstep e t (.viaView s w (pre ++ bad :: rest)) = hstep e t (.viaView s w pre) ∧
    hres e t (.viaView s w (pre ++ bad :: rest)) = .error .panic := by
  by_cases hok : (s.1 ≤ w.1 ∧ s.2 ≤ w.2) ∧ (w.1 ≤ t.numCols ∧ w.2 ≤ t.numRows)
  · obtain ⟨v, hv, hinv, _, _⟩ := C03_from_toodee_valid e.m t h s w hok.1 hok.2
    obtain ⟨hspre, hrpre, _⟩ := viaView_valid e t hv pre
    obtain ⟨hsall, hrall, _⟩ := viaView_valid e t hv (pre ++ bad :: rest)
    have hwpre : (HOp.viaView s w pre).wf := ⟨hop.1, fun op hm => hop.2 op (List.mem_append_left _ hm)⟩
    have hwbad : (HOp.viaView s w [bad]).wf :=
      ⟨hop.1, fun op hm => hop.2 op (List.mem_append_right _ (List.mem_cons.2 (.inl (List.mem_singleton.1 hm))))⟩
    -- the failing call neither succeeds nor ends in `ub`: it panics
    have hub := C01_no_ub e he _ (C01_step_inv e he t h _ hwpre) _ hwbad
    -- `pre` kept the length of the buffer, so the window of the array after `pre` is the same window `v`
    have hlen := (block_ok hinv e.m e.lim pre hwpre.2).len
    rw [hspre, (viaView_valid e _ ((VW.fromTooDee_data e.m s w t _ hlen).trans hv) [bad]).2.1] at hbad hub
    rw [hrpre] at hpre
    rw [hsall, hrall, hspre, Recv.runKeep_cut e.m e.lim _ pre rest bad t.data _ (Prod.ext rfl hpre) hbad]
    exact ⟨rfl, Res.eq_panic hbad hub⟩
  · rw [(viaView_invalid e h s w pre hop.1 hok).2.1] at hpre
    cases hpre

/-- **what the refinement's side condition leaves out, stated outright.**  `HOp.fits` removes from `C01_history_refines` the requests
    the plain model cannot express: more cells than a `Vec<T>` holds (`insert_*`, `push_*`, `new`, `init`, `reserve`) and a sorted
    line longer than a side table.  Each of them is rejected with a panic and leaves the array as it was — in both modes, for
    every limit. -/
theorem C01_over_capacity_rejected (e : HEnv) (t : TD α) (h : t.Inv) (op : HOp α) (hw : op.wf) (ho : op.overCap e t) :
    hres e t op = .error .panic ∧ hstep e t op = t :=
  hstep_over_cap e h op hw ho

/-- there is nothing between `fits` and `overCap`: a well-formed operation that is not a block of calls on a view either meets
    the side condition of the refinement or is one of the requests that `C01_over_capacity_rejected` rejects -/
theorem C01_fits_or_over_capacity (e : HEnv) (t : TD α) (op : HOp α) (hw : op.wf)
    (hv : ∀ s e' ops, op ≠ .viaView s e' ops) : op.fits e t ∨ op.overCap e t := by
  have key : ∀ a b : Nat, a ≤ b ∨ b < a := fun a b => (Nat.lt_or_ge b a).symm
  cases op with
  | insertRow i it sp => exact key _ _
  | insertCol i it sp => exact key _ _
  | newArr c r d => exact key _ _
  | initArr c r v => exact key _ _
  | capacityCall k =>
    cases k with
    | none => exact .inl trivial
    | some k => exact key _ _
  | inplace mop =>
    cases mop with
    | sortRow side k => exact key _ _
    | sortCol side k => exact key _ _
    | _ => exact .inl hw.2
  | viaView s e' ops => exact absurd rfl (hv s e' ops)
  | _ => exact .inl trivial

/-- non-vacuity: a concrete history (insert a row into the empty array, push a column, sort by row 0 descending, remove column 0
    pulling one item from the back, leak a row drain) runs through the Impl-model and the plain model to the same grid -/
example :
    let e : HEnv := ⟨.debug, 1000, 1000⟩
    let ops : List (HOp Nat) :=
      [.insertRow 0 (honest [5, 6, 7]) [0, 0, 0], .insertRow 1 (honest [1, 2, 3]) [0, 0, 0],
       .insertCol 3 (honest [8, 4]) [0, 0], .inplace (.sortRow (sideStable fun a b => decide (b ≤ a)) 0),
       .removeCol 0 [false], .removeRowLeak 1 []]
    (hrun e TD.default ops).grid = [[7, 6, 5]] ∧ grun [] ops = some [[7, 6, 5]] ∧ hfits e TD.default ops := by
  intro e ops
  have hp : stablePerm (fun a b : Nat => decide (b ≤ a)) [5, 6, 7, 8] = [3, 2, 1, 0] := by
    simp [stablePerm, List.zipIdx, List.mergeSort, List.MergeSort.Internal.splitInTwo]
  have hw : ∀ op ∈ ops, op.wf := by
    intro op hm
    simp only [ops, List.mem_cons, List.not_mem_nil, or_false] at hm
    rcases hm with rfl | rfl | rfl | rfl | rfl | rfl
    · exact Nat.le_refl 3
    · exact Nat.le_refl 3
    · exact Nat.le_refl 2
    · exact ⟨fun keys => Or.inr ⟨_, rfl, stablePerm_perm _ keys⟩, trivial⟩
    · trivial
    · trivial
  have hf : hfits e TD.default ops := by
    simp only [ops, hfits, HOp.spareOk, HOp.fits]
    decide
  have hg : grun [] ops = some [[7, 6, 5]] := by
    -- the sort is the one step the kernel cannot evaluate (`List.mergeSort` is by well-founded recursion)
    have g4 : gstep [[5, 6, 7, 8], [1, 2, 3, 4]] (.inplace (.sortRow (sideStable fun a b => decide (b ≤ a)) 0))
        = some [[8, 7, 6, 5], [4, 3, 2, 1]] := by
      have hk : ([[5, 6, 7, 8], [1, 2, 3, 4]] : List (List Nat))[0]?.getD [] = [5, 6, 7, 8] := rfl
      simp only [gstep, gstepM, sideStable, hk, hp]
      decide
    have g3 : grun [] (ops.take 3) = some [[5, 6, 7, 8], [1, 2, 3, 4]] := by decide
    have g6 : grun [[8, 7, 6, 5], [4, 3, 2, 1]] (ops.drop 4) = some [[7, 6, 5]] := by decide
    show (grun [] (ops.take 3)).bind (fun g =>
      (gstep g (.inplace (.sortRow (sideStable fun a b => decide (b ≤ a)) 0))).bind fun g => grun g (ops.drop 4)) = _
    rw [g3, Option.bind_some, g4, Option.bind_some, g6]
  exact ⟨C01_history_refines e (by show (1000 : Nat) < 18446744073709551616; decide) _ C20_default.1 ops hw hf _ hg, hg, hf⟩

/-- non-vacuity for blocks of calls on a view inside a history: on the window (1,1)-(3,3) of a 4x3 array write a cell, then
    exchange the window's two rows; only the window changes -/
example :
    let e : HEnv := ⟨.release, 1000, 1000⟩
    let ops : List (HOp Nat) := [.viaView (1, 1) (3, 3) [.set 0 0 99, .swapRows 0 1]]
    (hrun e ⟨[1, 2, 3, 4, 5, 6, 7, 8, 9, 10, 11, 12], 3, 4⟩ ops).grid = [[1, 2, 3, 4], [5, 10, 11, 8], [9, 99, 7, 12]] ∧
    grun [[1, 2, 3, 4], [5, 6, 7, 8], [9, 10, 11, 12]] ops = some [[1, 2, 3, 4], [5, 10, 11, 8], [9, 99, 7, 12]] ∧
    hflowRun e ⟨[1, 2, 3, 4, 5, 6, 7, 8, 9, 10, 11, 12], 3, 4⟩ ops = ⟨[99], [], [6], []⟩ := by
  exact ⟨by decide, by decide, rfl⟩

/-- non-vacuity: `reserve(usize::MAX)` on a 1x1 array of 4-byte cells, and a sort of a row longer than the side table -/
example : (HOp.capacityCall (some (WORD - 1)) : HOp Nat).overCap ⟨.release, 2305843009213693951, 100⟩ ⟨[7], 1, 1⟩ := by
  simp [HOp.overCap, WORD]

end Toodee
