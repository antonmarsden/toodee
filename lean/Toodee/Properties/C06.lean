import Toodee.Proofs.InsertLemmas
/-
  C06 — Inserting a row or column places it exactly and keeps the rest.

  `insert_row(i, items)` / `insert_col(i, items)` (and `push_*` = the `i = dim` instances) on an array with the shape
  invariant, for an honest iterator yielding `xs`, for **every** capacity `reserve` may have produced (`spare` = the cells
  beyond the length, any content, at least as many as requested), in both build modes:
  * accepted iff `i ≤ R` (resp. `C`) and `|xs| = C` (resp. `R`) or the array is empty; the result is the original with the new
    line at position `i`, every other cell in its original relative position, that dimension grown by one; an empty line into
    an empty array leaves `(0,0)`; nothing is leaked, the iterator is exhausted, the invariant holds;
  * any other index or length panics *before any mutation* (the array is unchanged — stronger than "a valid array").
  The raw moves never leave the allocation (no `ub`).

  Theorems: `C06_insert_row_ok`, `C06_insert_row_grid`, `C06_insert_col_ok`, `C06_insert_col_grid` (first item; instances of
  `TD.Inv.insertRow_honest` / `TD.Inv.insertCol_honest`, Proofs/InsertLemmas), `C06_insert_row_reject`, `C06_insert_col_reject` (second),
  `C06_push`.  Between the two items lies the request whose index and length are fine but whose new length exceeds the capacity
  limit `cap` (`hcap`; the `capLimit` of `reserveOk`, Base/Mem.lean, below `WORD`): it panics with the array unchanged as well,
  `TD.insertRow_over_cap` / `TD.insertCol_over_cap`, cited by `C01_over_capacity_rejected`.
-/
namespace Toodee
variable {α : Type}

theorem C06_insert_row_ok (m : Mode) (cap : Nat) (t : TD α) (h : t.Inv) (i : Nat) (xs spare : List α)
    (hi : i ≤ t.numRows) (hlen : t.numRows = 0 ∨ xs.length = t.numCols)
    (hcap : t.data.length + xs.length ≤ cap) (hsp : xs.length ≤ spare.length)
    (hword : t.data.length + xs.length < WORD) :
    let o := t.insertRow m cap i (honest xs) spare
    o.res = .ok () ∧ o.rest = [] ∧ o.leaked = [] ∧ o.t.Inv ∧
    o.t.data = t.data.take (i * t.numCols) ++ xs ++ t.data.drop (i * t.numCols) ∧
    o.t.numCols = xs.length ∧
    o.t.numRows = (if xs.length = 0 then 0 else t.numRows + 1) := by
  intro o
  have ho : o = _ := h.insertRow_honest m cap i xs spare hi hlen hcap hsp
  obtain ⟨hall, hflat, hl⟩ := h.grid_insertIdx hi xs hlen
  have hgl : (t.grid.insertIdx i xs).length = t.numRows + 1 := by
    rw [List.length_insertIdx_of_le_length (h.grid_length ▸ hi), h.grid_length]
  rw [ho]
  refine ⟨rfl, rfl, rfl, TD.ofRows_inv hall (hl ▸ hword), hflat,
    TD.ofRows_numCols _ (List.ne_nil_of_length_pos (hgl ▸ Nat.succ_pos _)), ?_⟩
  show (if xs.length = 0 then 0 else (t.grid.insertIdx i xs).length) = _
  rw [hgl]

/-- the same result in rows-of-cells form: the new row sits at index `i`, the others keep their order -/
theorem C06_insert_row_grid (m : Mode) (cap : Nat) (t : TD α) (h : t.Inv) (i : Nat) (xs spare : List α)
    (hi : i ≤ t.numRows) (hlen : xs.length = t.numCols) (hpos : 0 < xs.length)
    (hcap : t.data.length + xs.length ≤ cap) (hsp : xs.length ≤ spare.length)
    (hword : t.data.length + xs.length < WORD) :
    (t.insertRow m cap i (honest xs) spare).t.grid = t.grid.insertIdx i xs := by
  have _ := hword -- not used: past the capacity guard (`hcap`) the model adds the two lengths without a check
  rw [h.insertRow_honest m cap i xs spare hi (Or.inr hlen) hcap hsp]
  exact TD.ofRows_grid_of_ne (h.grid_insertIdx hi xs (Or.inr hlen)).1 (Nat.ne_of_gt hpos)

theorem C06_insert_row_reject (m : Mode) (cap : Nat) (t : TD α) (i : Nat) (it : IterScript α) (spare : List α)
    (hbad : ¬ (i ≤ t.numRows ∧ (t.numRows = 0 ∨ it.claimed = t.numCols))) :
    let o := t.insertRow m cap i it spare
    o.res = .error .panic ∧ o.t = t ∧ o.rest = it.events ∧ o.leaked = [] := by
  intro o
  have ho : o = _ := TD.insertRow_reject m cap t i it spare fun hacc => hbad ⟨hacc.1, hacc.2.1⟩
  rw [ho]
  exact ⟨rfl, rfl, rfl, rfl⟩

theorem C06_insert_col_ok (m : Mode) (cap : Nat) (t : TD α) (h : t.Inv) (i : Nat) (xs spare : List α)
    (hi : i ≤ t.numCols) (hlen : t.numCols = 0 ∨ xs.length = t.numRows)
    (hcap : t.data.length + xs.length ≤ cap) (hsp : xs.length ≤ spare.length)
    (hword : t.data.length + xs.length < WORD) :
    let o := t.insertCol m cap i (honest xs) spare
    o.res = .ok () ∧ o.rest = [] ∧ o.leaked = [] ∧ o.t.Inv ∧
    o.t.data = (if t.numCols = 0 then xs else (List.zipWith (insAt i) t.grid xs).flatten) ∧
    o.t.numRows = xs.length ∧
    o.t.numCols = (if xs.length = 0 then 0 else t.numCols + 1) := by
  intro o
  have ho : o = _ := h.insertCol_honest m cap i xs spare hi hlen hcap hsp hword
  obtain ⟨hall, -, hl⟩ := h.rowsForCol_insAt i hlen xs rfl
  have hzl := zipWith_insAt_length i _ xs (h.rowsForCol_length hlen).symm
  rw [ho]
  refine ⟨rfl, rfl, rfl, TD.ofRows_inv hall (hl ▸ hword), ?_, (TD.ofRows_numRows (Nat.succ_ne_zero _) _).trans hzl, ?_⟩
  · show (List.zipWith (insAt i) (t.rowsForCol xs.length) xs).flatten = _
    by_cases hc : t.numCols = 0
    · rw [if_pos hc, TD.rowsForCol_of_zero hc, show i = 0 from Nat.eq_zero_of_le_zero (hc ▸ hi)]
      exact zipWith_insAt_replicate_nil xs
    · rw [if_neg hc, TD.rowsForCol_of_pos (Nat.pos_of_ne_zero hc)]
  · show (if (List.zipWith (insAt i) (t.rowsForCol xs.length) xs).length = 0 then 0 else t.numCols + 1) = _
    rw [hzl]

/-- rows-of-cells form: every row gets its new cell at column `i` -/
theorem C06_insert_col_grid (m : Mode) (cap : Nat) (t : TD α) (h : t.Inv) (i : Nat) (xs spare : List α)
    (hi : i ≤ t.numCols) (hlen : xs.length = t.numRows) (hpos : 0 < t.numCols)
    (hcap : t.data.length + xs.length ≤ cap) (hsp : xs.length ≤ spare.length)
    (hword : t.data.length + xs.length < WORD) :
    (t.insertCol m cap i (honest xs) spare).t.grid = List.zipWith (insAt i) t.grid xs := by
  rw [h.insertCol_honest m cap i xs spare hi (Or.inr hlen) hcap hsp hword, TD.rowsForCol_of_pos hpos]
  exact TD.ofRows_grid_of_ne (zipWith_insAt_row_length _ i _ xs t.grid_row_length) (Nat.succ_ne_zero _)

theorem C06_insert_col_reject (m : Mode) (cap : Nat) (t : TD α) (i : Nat) (it : IterScript α) (spare : List α)
    (hbad : ¬ (i ≤ t.numCols ∧ (t.numCols = 0 ∨ it.claimed = t.numRows))) :
    let o := t.insertCol m cap i it spare
    o.res = .error .panic ∧ o.t = t ∧ o.rest = it.events ∧ o.leaked = [] := by
  intro o
  have ho : o = _ := TD.insertCol_reject m cap t i it spare fun hacc => hbad ⟨hacc.1, hacc.2.1⟩
  rw [ho]
  exact ⟨rfl, rfl, rfl, rfl⟩

/-- `push_row` / `push_col` are the `i = dim` instances -/
theorem C06_push (m : Mode) (cap : Nat) (t : TD α) (it : IterScript α) (spare : List α) :
    t.pushRow m cap it spare = t.insertRow m cap t.numRows it spare ∧
    t.pushCol m cap it spare = t.insertCol m cap t.numCols it spare := ⟨rfl, rfl⟩

/-- non-vacuity: a 3x2 array gets a column at index 1 (exact capacity) -/
example : (TD.insertCol .debug 100 ⟨[1, 2, 3, 4, 5, 6], 2, 3⟩ 1 (honest [10, 20]) [0, 0]).t
    = ⟨[1, 10, 2, 3, 4, 20, 5, 6], 2, 4⟩ := by decide

end Toodee
