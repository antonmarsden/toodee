import Toodee.Proofs.SortLemmas
import Toodee.Proofs.SwapTrace
/-
  C16 — Sorting by a row permutes whole columns into order.  The file rests on `Proofs/SwapTrace` (the swap trace) and
  `Proofs/SortLemmas` (the side sort, the body equation `Acc.Of.sortRowWith_eq`); C17 is its transpose.

  * `buildSwapTrace p` (for a permutation `p` of `0..n`) returns transpositions `(i,j)` with `i < j < n` whose successive
    application to any list `xs` of length `n` yields `ys` with `ys[k] = xs[p[k]]`; every `get_unchecked` in it is in range.
  * `stablePerm le keys` (the model of `sort_by` on `(index,&key)` pairs) is a permutation of `0..n`, orders the keys, and keeps
    tied keys in their original order.
  * applying the trace to every row = permuting whole columns: `gather buf (v.mapCells (sortColsG p))`, i.e. new column `j` is
    old column `p[j]` on every row; positions outside the view are unchanged.
  * `C16_sort_row_with`, the one body of all six methods read off `Acc.Of.sortRowWith_eq`: an out-of-range row panics; a row with
    more than `lim` keys panics (the side table, "capacity overflow"); a panic of caller code inside the side sort is the outcome
    and nothing has been written; otherwise the columns are permuted by the permutation `p` the side sort returned.
  * `sort_by_row` = that with `p = stablePerm le (key row)`; `sort_unstable_by_row` = that with *any* permutation `p` the side
    sort may return; the four key variants delegate (`C16_variants_delegate`).
  * the result: the cell map is a bijection of the view (`C16_cols_bijective`); the key row of the result is the old key row read
    through `p`, so it is ordered whenever the side sort ordered the keys (`C16_result_row_sorted`, hypothesis `hsorted`).  For the
    stable methods `hsorted` is the second clause of `C16_stable_perm`, and the `*_ordered` theorems combine the two.  For the
    unstable methods `hsorted` is the contract of `sort_unstable_by` and stays a hypothesis: `C16_sort_unstable_by_row` together
    with `C16_result_row_sorted` is the intended reading.
-/
namespace Toodee
variable {α : Type}

theorem C16_build_swap_trace (p : List Nat) (hp : p.Perm (List.range p.length)) :
    ∃ trace, buildSwapTrace p = .ok trace ∧
      (∀ ij ∈ trace, ij.1 < ij.2 ∧ ij.2 < p.length) ∧
      ∀ {β : Type} (xs : List β), xs.length = p.length →
        (applySwaps xs trace).length = p.length ∧ ∀ k, k < p.length → (applySwaps xs trace)[k]? = xs[p.getD k 0]? := by
  obtain ⟨tr, e, hb, ht⟩ := buildSwapTrace_spec hp
  refine ⟨tr, e, hb, fun {β} xs hx => ?_⟩
  obtain ⟨h1, h2⟩ := applySwaps_getElem? tr (SwapTrace.bounds_lt hb) xs hx
  exact ⟨h1, fun k hk => by rw [← ht k 0 hk]; exact h2 k⟩

/-- the stable side sort: a permutation, sorted keys, ties in original order.  `le` is a total preorder. -/
theorem C16_stable_perm (le : α → α → Bool) (htrans : ∀ a b c, le a b → le b c → le a c)
    (htotal : ∀ a b, le a b ∨ le b a) (keys : List α) :
    (stablePerm le keys).Perm (List.range keys.length) ∧
    ((stablePerm le keys).filterMap (keys[·]?)).Pairwise (fun a b => le a b = true) ∧
    (∀ i j, i < j → j < keys.length → ∀ a b, keys[(stablePerm le keys).getD i 0]? = some a →
      keys[(stablePerm le keys).getD j 0]? = some b → le b a = true →
      (stablePerm le keys).getD i 0 < (stablePerm le keys).getD j 0) :=
  ⟨stablePerm_perm le keys, stablePerm_sorted le htrans htotal keys,
    stablePerm_stable le htrans htotal keys (keys[·]?) fun _ _ => rfl⟩

/-- applying the trace of permutation `p` to every row permutes whole columns: the loop over row `ρ` acts by `traceMap tr` within
    that row (`VW.Inv.applyTraceRow_ok`); the same map within every row in turn is one cell permutation (`VW.Inv.foldlM_rows_perm`); and
    `traceMap tr` is `k ↦ p[k]` below `numCols` (`buildSwapTrace_spec`), which is `sortColsG p` -/
theorem C16_apply_col_perm (v : VW) (buf : List α) (h : v.Inv buf.length) (a : Acc) (ha : a.Of v buf.length)
    (p : List Nat) (hp : p.Perm (List.range v.numCols)) :
    a.applyColPerm buf p = .ok (gather buf (v.mapCells (sortColsG p))) := by
  obtain ⟨tr, e1, hb, ht⟩ := buildSwapTrace_spec hp
  have hb' := SwapTrace.bounds_lt hb
  unfold Acc.applyColPerm
  rw [e1]
  simp only [ok_bind]
  rw [ha.collect_rows]
  simp only [ok_bind]
  rw [List.foldlM_map, h.foldlM_rows_perm _ (traceMap tr) (fun _ hc => traceMap_lt tr hb' hc)
    (fun b ρ hl hρ => h.applyTraceRow_ok hρ tr hb' b hl) buf rfl]
  exact congrArg Except.ok (gather_mapCells_congr buf _ _ fun c r hc _ => congrArg (·, r) (ht c c hc))

theorem C16_key_row_length (v : VW) (buf : List α) (h : v.Inv buf.length) (row : Nat) (hr : row < v.numRows) :
    (readWin buf (v.rowWin row)).length = v.numCols :=
  readWin_length buf _ (h.rowWin_inside hr)

/-- **Every `sort_*_row*` method** (`Acc.sortRowWith`: the one body all six share; `side` = what its side sort does with the keys
    of the chosen row; `lim` = how many entries a side table may have):
    * an out-of-range row panics;
    * a row too long for the side table panics ("capacity overflow") — only reachable for zero-sized elements;
    * if caller code panics inside the side sort, that panic is the outcome (nothing has been written to the array before the
      side sort returns: `applyColPerm` is the only writer and runs afterwards);
    * otherwise whole columns are permuted by the permutation `p` the side sort returned: new column `j` is old column `p[j]`. -/
theorem C16_sort_row_with (v : VW) (buf : List α) (h : v.Inv buf.length) (a : Acc) (ha : a.Of v buf.length)
    (indexRow : Nat → Res Win) (hidx : ∀ r, r < v.numRows → indexRow r = .ok (v.rowWin r))
    (lim : Nat) (side : SideSort α) (row : Nat) :
    (¬ row < v.numRows → a.sortRowWith indexRow buf lim side row = .error .panic) ∧
    (row < v.numRows → ¬ v.numCols ≤ lim → a.sortRowWith indexRow buf lim side row = .error .panic) ∧
    (row < v.numRows → v.numCols ≤ lim → ∀ e, side (readWin buf (v.rowWin row)) = .error e →
      a.sortRowWith indexRow buf lim side row = .error e) ∧
    (row < v.numRows → v.numCols ≤ lim → ∀ p, side (readWin buf (v.rowWin row)) = .ok p → p.Perm (List.range v.numCols) →
      a.sortRowWith indexRow buf lim side row = .ok (gather buf (v.mapCells (sortColsG p)))) := by
  rw [ha.sortRowWith_eq h indexRow hidx lim side row]
  refine ⟨fun hr => if_neg fun hh => hr hh.1, fun _ hlim => if_neg fun hh => hlim hh.2, fun hr hlim e he => ?_,
    fun hr hlim p hs hp => ?_⟩
  · rw [if_pos ⟨hr, hlim⟩, he]; rfl
  · rw [if_pos ⟨hr, hlim⟩, hs]; exact C16_apply_col_perm v buf h a ha p hp

theorem C16_sort_by_row (v : VW) (buf : List α) (h : v.Inv buf.length) (a : Acc) (ha : a.Of v buf.length)
    (indexRow : Nat → Res Win) (hidx : ∀ r, r < v.numRows → indexRow r = .ok (v.rowWin r))
    (lim : Nat) (hlim : v.numCols ≤ lim) (le : α → α → Bool) (row : Nat) :
    (row < v.numRows →
      a.sortByRow indexRow buf lim le row =
        .ok (gather buf (v.mapCells (sortColsG (stablePerm le (readWin buf (v.rowWin row))))))) ∧
    (¬ row < v.numRows → a.sortByRow indexRow buf lim le row = .error .panic) := by
  obtain ⟨h1, _, _, h4⟩ := C16_sort_row_with v buf h a ha indexRow hidx lim (sideStable le) row
  exact ⟨fun hr => h4 hr hlim _ rfl (stablePerm_perm_of_length le (C16_key_row_length v buf h row hr)), h1⟩

/-- `sort_unstable_by_row(row, compare)`: for every permutation the side sort may return -/
theorem C16_sort_unstable_by_row (v : VW) (buf : List α) (h : v.Inv buf.length) (a : Acc) (ha : a.Of v buf.length)
    (indexRow : Nat → Res Win) (hidx : ∀ r, r < v.numRows → indexRow r = .ok (v.rowWin r))
    (lim : Nat) (hlim : v.numCols ≤ lim) (p : List Nat) (hp : p.Perm (List.range v.numCols)) (row : Nat) :
    (row < v.numRows → a.sortUnstableByRow indexRow buf lim p row = .ok (gather buf (v.mapCells (sortColsG p)))) ∧
    (¬ row < v.numRows → a.sortUnstableByRow indexRow buf lim p row = .error .panic) := by
  obtain ⟨h1, _, _, h4⟩ := C16_sort_row_with v buf h a ha indexRow hidx lim (sideGiven p) row
  exact ⟨fun hr => h4 hr hlim p (sideGiven_sane_on p _ (by rw [C16_key_row_length v buf h row hr]; exact hp)).1 hp, h1⟩

/-- the key and natural-order variants are the comparator variants with the derived comparator (src/sort.rs:68-76, 147-164) -/
theorem C16_variants_delegate {κ : Type} (a : Acc) (indexRow : Nat → Res Win) (buf : List α) (lim : Nat)
    (key : α → κ) (leK : κ → κ → Bool) (leOrd : α → α → Bool) (p : List Nat) (row : Nat) :
    a.sortByRowKey indexRow buf lim key leK row = a.sortByRow indexRow buf lim (fun x y => leK (key x) (key y)) row ∧
    a.sortRowOrd indexRow buf lim leOrd row = a.sortByRow indexRow buf lim leOrd row ∧
    a.sortUnstableByRowKey indexRow buf lim p row = a.sortUnstableByRow indexRow buf lim p row ∧
    a.sortUnstableRowOrd indexRow buf lim p row = a.sortUnstableByRow indexRow buf lim p row :=
  ⟨rfl, rfl, rfl, rfl⟩

/-- a column permutation is a bijection of the cells: every column of the result is one original column, each once -/
theorem C16_cols_bijective (C R : Nat) (p : List Nat) (hp : p.Perm (List.range C)) :
    (∀ c r, c < C → r < R → (sortColsG p (c, r)).1 < C ∧ (sortColsG p (c, r)).2 = r) ∧
    (∀ c c' r, c < C → c' < C → (sortColsG p (c, r)).1 = (sortColsG p (c', r)).1 → c = c') :=
  ⟨fun c r hc hr => ⟨(sortColsG_cellMap hp c r hc hr).1, rfl⟩,
    fun c c' _ hc hc' he => perm_range_getD_inj hp c c' hc hc' he⟩

/-- the first clause of the property, on the result buffer: after `sort_by_row` the chosen row is ordered by the comparison
    (`le` a total preorder); likewise for any permutation satisfying the contract of `sort_unstable_by` -/
theorem C16_result_row_sorted (v : VW) (buf : List α) (h : v.Inv buf.length) (p : List Nat)
    (hp : p.Perm (List.range v.numCols)) (row : Nat) (hr : row < v.numRows) (le : α → α → Bool)
    (hsorted : (p.filterMap ((readWin buf (v.rowWin row))[·]?)).Pairwise (fun a b => le a b = true)) :
    (readWin (gather buf (v.mapCells (sortColsG p))) (v.rowWin row)).Pairwise (fun a b => le a b = true) ∧
    readWin (gather buf (v.mapCells (sortColsG p))) (v.rowWin row) = p.filterMap ((readWin buf (v.rowWin row))[·]?) := by
  have heq := keys_permuted hp (C16_key_row_length v buf h row hr) (fun k => buf[v.pos k row]?) _
    (VW.readWin_rowWin_getElem? v buf row) (VW.readWin_rowWin_getElem? v (gather buf (v.mapCells (sortColsG p))) row)
    fun k hk => h.gather_mapCells_pos _ (sortColsG_cellMap hp) hk hr
  exact ⟨by rw [heq]; exact hsorted, heq⟩

/-- **The property's first sentence for the stable comparator variant, in one statement**: for a total preorder `le` and a valid
    row, `sort_by_row` succeeds; the result is the old array with whole columns permuted by a permutation `p` of the column
    indices (every result column is one original column, each exactly once); the chosen row of the result is ordered by `le`;
    and columns whose keys compare equal (`le` both ways) keep their original left-to-right order. -/
theorem C16_sort_by_row_ordered (v : VW) (buf : List α) (h : v.Inv buf.length) (a : Acc) (ha : a.Of v buf.length)
    (indexRow : Nat → Res Win) (hidx : ∀ r, r < v.numRows → indexRow r = .ok (v.rowWin r))
    (lim : Nat) (hlim : v.numCols ≤ lim) (le : α → α → Bool)
    (htrans : ∀ a b c, le a b → le b c → le a c) (htotal : ∀ a b, le a b ∨ le b a)
    (row : Nat) (hr : row < v.numRows) :
    ∃ p buf', a.sortByRow indexRow buf lim le row = .ok buf' ∧ p.Perm (List.range v.numCols) ∧
      buf' = gather buf (v.mapCells (sortColsG p)) ∧
      (readWin buf' (v.rowWin row)).Pairwise (fun x y => le x y = true) ∧
      (∀ i j, i < j → j < v.numCols → ∀ x y, buf[v.pos (p.getD i 0) row]? = some x → buf[v.pos (p.getD j 0) row]? = some y →
        le y x = true → p.getD i 0 < p.getD j 0) := by
  have hl := C16_key_row_length v buf h row hr
  have hperm := stablePerm_perm_of_length le hl
  exact ⟨stablePerm le (readWin buf (v.rowWin row)), _,
    (C16_sort_by_row v buf h a ha indexRow hidx lim hlim le row).1 hr, hperm, rfl,
    (C16_result_row_sorted v buf h _ hperm row hr le (stablePerm_sorted le htrans htotal _)).1,
    fun i j hij hj => stablePerm_stable le htrans htotal _ (fun k => buf[v.pos k row]?)
      (fun k hk => by rw [VW.readWin_rowWin_getElem?, if_pos (hl ▸ hk)]) i j hij (hl.symm ▸ hj)⟩

/-- the same for the key-function variant: the chosen row ends up ordered by the keys, columns with equal keys keep their order -/
theorem C16_sort_by_row_key_ordered {κ : Type} (v : VW) (buf : List α) (h : v.Inv buf.length) (a : Acc) (ha : a.Of v buf.length)
    (indexRow : Nat → Res Win) (hidx : ∀ r, r < v.numRows → indexRow r = .ok (v.rowWin r))
    (lim : Nat) (hlim : v.numCols ≤ lim) (key : α → κ) (leK : κ → κ → Bool)
    (htrans : ∀ a b c, leK a b → leK b c → leK a c) (htotal : ∀ a b, leK a b ∨ leK b a)
    (row : Nat) (hr : row < v.numRows) :
    ∃ p buf', a.sortByRowKey indexRow buf lim key leK row = .ok buf' ∧ p.Perm (List.range v.numCols) ∧
      buf' = gather buf (v.mapCells (sortColsG p)) ∧
      (readWin buf' (v.rowWin row)).Pairwise (fun x y => leK (key x) (key y) = true) ∧
      (∀ i j, i < j → j < v.numCols → ∀ x y, buf[v.pos (p.getD i 0) row]? = some x → buf[v.pos (p.getD j 0) row]? = some y →
        leK (key y) (key x) = true → p.getD i 0 < p.getD j 0) := by
  exact C16_sort_by_row_ordered v buf h a ha indexRow hidx lim hlim
    (fun x y => leK (key x) (key y)) (fun a b c => htrans (key a) (key b) (key c)) (fun a b => htotal (key a) (key b)) row hr

/-- … and for the natural-order variant `sort_row_ord` (`leOrd` = `T: Ord`): ordered, ties keep their order -/
theorem C16_sort_row_ord_ordered (v : VW) (buf : List α) (h : v.Inv buf.length) (a : Acc) (ha : a.Of v buf.length)
    (indexRow : Nat → Res Win) (hidx : ∀ r, r < v.numRows → indexRow r = .ok (v.rowWin r))
    (lim : Nat) (hlim : v.numCols ≤ lim) (leOrd : α → α → Bool)
    (htrans : ∀ a b c, leOrd a b → leOrd b c → leOrd a c) (htotal : ∀ a b, leOrd a b ∨ leOrd b a)
    (row : Nat) (hr : row < v.numRows) :
    ∃ p buf', a.sortRowOrd indexRow buf lim leOrd row = .ok buf' ∧ p.Perm (List.range v.numCols) ∧
      buf' = gather buf (v.mapCells (sortColsG p)) ∧
      (readWin buf' (v.rowWin row)).Pairwise (fun x y => leOrd x y = true) ∧
      (∀ i j, i < j → j < v.numCols → ∀ x y, buf[v.pos (p.getD i 0) row]? = some x → buf[v.pos (p.getD j 0) row]? = some y →
        leOrd y x = true → p.getD i 0 < p.getD j 0) :=
  C16_sort_by_row_ordered v buf h a ha indexRow hidx lim hlim leOrd htrans htotal row hr

/-- non-vacuity: a 3x2 owned array sorted by its row 0 (keys 30,10,20): columns move as wholes.  (Through the theorem, since
    `List.mergeSort` and the two loops of `buildSwapTrace` are well-founded recursions that `rfl` / `decide` do not unfold.) -/
example : (⟨[30, 10, 20, 1, 2, 3], 2, 3⟩ : TD Nat).acc.sortByRow
      ((⟨[30, 10, 20, 1, 2, 3], 2, 3⟩ : TD Nat).indexRow .debug) [30, 10, 20, 1, 2, 3] 100 (fun a b => decide (a ≤ b)) 0
    = .ok [10, 20, 30, 2, 3, 1] := by
  have h : (⟨[30, 10, 20, 1, 2, 3], 2, 3⟩ : TD Nat).Inv := ⟨rfl, by decide, by decide⟩
  have hv := h.asView
  have ha : (⟨[30, 10, 20, 1, 2, 3], 2, 3⟩ : TD Nat).acc.Of (⟨[30, 10, 20, 1, 2, 3], 2, 3⟩ : TD Nat).asView 6 := by
    obtain ⟨hwf, habs⟩ := h.rows_cursor
    exact ⟨rfl, rfl, hwf, habs⟩
  have hidx : ∀ r, r < 2 → (⟨[30, 10, 20, 1, 2, 3], 2, 3⟩ : TD Nat).indexRow .debug r
      = .ok ((⟨[30, 10, 20, 1, 2, 3], 2, 3⟩ : TD Nat).asView.rowWin r) := by
    intro r hr
    match r, hr with
    | 0, _ => rfl
    | 1, _ => rfl
  have hs := (C16_sort_by_row _ _ hv _ ha _ hidx 100 (by decide) (fun a b => decide (a ≤ b)) 0).1 (by decide)
  rw [hs]
  have hp : stablePerm (fun a b : Nat => decide (a ≤ b)) [30, 10, 20] = [1, 2, 0] := by
    simp [stablePerm, List.zipIdx, List.mergeSort, List.MergeSort.Internal.splitInTwo]
  have hk : readWin [30, 10, 20, 1, 2, 3] ((⟨[30, 10, 20, 1, 2, 3], 2, 3⟩ : TD Nat).asView.rowWin 0) = [30, 10, 20] := rfl
  rw [hk, hp]
  rfl

end Toodee
