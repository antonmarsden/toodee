import Toodee.Proofs.SerdeLemmas
/-
  C19 — Deserialisation accepts only consistent documents and never panics.

  For **every** document: the outcome is an error, or an array that satisfies the shape invariant and whose dimensions and
  cells are stated in the document (the `num_cols` / `num_rows` entries and one of the `data` entries — a repeated `data` key
  overwrites); it is never a panic.  `C19_exact`: it is the last `data` entry, the dimensions are stated exactly once and there
  is no other key.  Documents whose dimensions overflow, disagree with the data length, or have exactly one zero dimension
  are rejected.

  Theorem by clause.  `C19_never_panics`: no panic, and what is accepted is valid and stated in the document.  `C19_rejects`: the three
  inconsistencies, given that the visitor got its three values.  `C19_accepts`: the converse, every well-formed three-entry document
  in any order is accepted (`deserialize_ok`).  `C19_exact`: what an accepted document looks like, exactly.  A document that is not
  an object: `deserialize_not_obj` (SerdeLemmas).  All are read off `visitLoop_init_iff` and `deserialize_eq_ok_iff` there.
  "Every document" is every `JVal`: `other` stands for whatever is neither a non-negative integer literal, an array nor an object
  (negative, fractional, string, null, bool); tokenisation and number parsing are `serde_json`'s and assumed.
-/
namespace Toodee
variable {α : Type}

/-- every document: `Deserialize` never panics, and what it accepts satisfies the shape invariant and states its dimensions and cells
    in entries of the document (so it is an object: `deserialize_not_obj` is the other half) -/
theorem C19_never_panics (dec : JVal → Option α) (doc : JVal) : ∀ t, deserialize dec doc ≠ .panic ∧
    (deserialize dec doc = .ok t →
      t.Inv ∧
      ∃ kvs, doc = .obj kvs ∧
        ("num_cols", JVal.num t.numCols) ∈ kvs ∧ ("num_rows", JVal.num t.numRows) ∈ kvs ∧
        ∃ v, ("data", v) ∈ kvs ∧ decVec dec v = some t.data) := by
  refine fun t => ⟨deserialize_ne_panic dec doc, fun h => ?_⟩
  obtain ⟨hinv, kvs, rfl, hv⟩ := deserialize_eq_ok_iff.1 h
  obtain ⟨_, ⟨_, a⟩, ⟨_, b⟩, _, v, c, hd⟩ := visitLoop_init_iff.1 hv
  exact ⟨hinv, kvs, rfl, List.filter_sublist.subset (a ▸ List.mem_cons_self), List.filter_sublist.subset (b ▸ List.mem_cons_self),
    v, List.filter_sublist.subset (List.mem_of_getLast? c), hd⟩

/-- the three kinds of inconsistent document are rejected: whenever the visitor gets as far as the three values
    (`visitLoop_init_iff` says for which documents it does) -/
theorem C19_rejects (dec : JVal → Option α) (kvs : List (String × JVal)) (nc nr : Nat) (data : List α)
    (hv : visitLoop dec kvs none none none = some (some nc, some nr, some data))
    (hbad : WORD ≤ nc * nr ∨ nc * nr ≠ data.length ∨ ¬ (nc = 0 ↔ nr = 0)) :
    deserialize dec (.obj kvs) = .err := by
  rw [deserialize_obj, hv]
  refine if_neg fun h => ?_
  rcases hbad with hb | hb | hb
  · exact Nat.not_le.2 h.1.2 hb
  · exact hb h.2
  · exact hb h.1.1

/-- the converse direction: **every well-formed document is accepted**, whatever the order of its three entries — the dimensions
    as number literals below 2^64 satisfying the zero rule, a `data` array whose elements decode, product = number of elements -/
theorem C19_accepts (dec : JVal → Option α) (kvs : List (String × JVal)) (nc nr : Nat) (v : JVal) (data : List α)
    (hk : kvs.Perm [("num_cols", JVal.num nc), ("num_rows", JVal.num nr), ("data", v)])
    (hd : decVec dec v = some data) (hlen : nc * nr = data.length) (hw : nc * nr < WORD) (hz : nc = 0 ↔ nr = 0) :
    deserialize dec (.obj kvs) = .ok ⟨data, nr, nc⟩ :=
  deserialize_ok hk hd hlen hw hz

/-- **an accepted document, exactly**: it has only the three known keys, states each dimension once (the array's), and the
    **last** `data` entry is the array's cells — "dimensions and cells are exactly those stated in the document" with the one
    liberty the visitor takes (a repeated `data` key overwrites) made exact -/
theorem C19_exact (dec : JVal → Option α) (kvs : List (String × JVal)) (t : TD α)
    (h : deserialize dec (.obj kvs) = .ok t) :
    (∀ kv ∈ kvs, kv.1 = "num_cols" ∨ kv.1 = "num_rows" ∨ kv.1 = "data") ∧
    kvs.filter (fun kv => kv.1 == "num_cols") = [("num_cols", JVal.num t.numCols)] ∧
    kvs.filter (fun kv => kv.1 == "num_rows") = [("num_rows", JVal.num t.numRows)] ∧
    ∃ v, (kvs.filter (fun kv => kv.1 == "data")).getLast? = some ("data", v) ∧ decVec dec v = some t.data := by
  obtain ⟨_, _, ⟨⟩, hv⟩ := deserialize_eq_ok_iff.1 h
  obtain ⟨hk, ⟨_, a⟩, ⟨_, b⟩, _, c⟩ := visitLoop_init_iff.1 hv
  exact ⟨hk, a, b, c⟩

/-- the element codec used by the non-vacuity examples: natural-number literals -/
private def decNat : JVal → Option Nat
  | .num n => some n
  | _ => none

/-- non-vacuity: an accepted document (so the `.ok` branch of `C19_never_panics` is inhabited) -/
example : deserialize decNat (.obj [("num_cols", .num 1), ("num_rows", .num 2), ("data", .arr [.num 5, .num 6])])
    = .ok ⟨[5, 6], 2, 1⟩ := rfl
/-- non-vacuity: a repeated `data` key overwrites, keys may come in any order -/
example : deserialize decNat (.obj [("data", .arr [.num 9]), ("num_rows", .num 1), ("data", .arr [.num 7, .num 8]),
    ("num_cols", .num 2)]) = .ok ⟨[7, 8], 1, 2⟩ := rfl
/-- non-vacuity: exactly one zero dimension, a length mismatch, an overflowing product, a repeated dimension key,
    an unknown key and a non-object are all rejected -/
example : deserialize decNat (.obj [("num_cols", .num 0), ("num_rows", .num 5), ("data", .arr [])]) = .err := rfl
example : deserialize decNat (.obj [("num_cols", .num 2), ("num_rows", .num 2), ("data", .arr [.num 1])]) = .err := rfl
example : deserialize decNat (.obj [("num_cols", .num 4294967296), ("num_rows", .num 4294967296), ("data", .arr [])])
    = .err := rfl
example : deserialize decNat (.obj [("num_cols", .num 1), ("num_cols", .num 1), ("num_rows", .num 1),
    ("data", .arr [.num 1])]) = .err := rfl
example : deserialize decNat (.obj [("num_cols", .num 1), ("colour", .num 1)]) = .err := rfl
example : deserialize decNat (.arr []) = .err := rfl
/-- non-vacuity of `C19_rejects`: its hypotheses are satisfiable (one-zero-dimension document) -/
example : deserialize decNat (.obj [("num_cols", .num 0), ("num_rows", .num 5), ("data", .arr [])]) = .err :=
  C19_rejects decNat _ 0 5 [] (by simp [visitLoop, decUsize, decVec, WORD]) (.inr (.inr (by decide)))

end Toodee
