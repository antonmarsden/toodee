import Toodee.Proofs.CopyLemmas
/-
  C14 — Copy operations transfer exactly the source cells.

  `copy_from_slice` / `clone_from_slice` (one transcription), `copy_from_toodee` / `clone_from_toodee` (one transcription),
  each as trait default (`Acc.*`: views and third-party types) and as `TooDee` override (`TD.*`); `copy_within` (default,
  never overridden).  Sizes equal ⇒ the destination's cell `(c,r)` becomes the source's cell `(c,r)` (row-major for a
  slice) and every position outside the destination view is unchanged (`updCells`); sizes differ ⇒ `panic`; every
  destination shape incl. `(0,0)`.  `copy_within`: rectangles fit ⇒ destination rectangle = prior source rectangle for
  *every* relative placement (overlaps included), everything else unchanged; otherwise `panic`.  Never `ub`; both modes.

  Each outcome is one equation for every argument in Proofs/CopyLemmas.lean (`Acc.Of.copyFromSlice_eq`, `TD.Inv.copyFromSlice_eq`,
  `Acc.Of.copyFromTooDee_eq`, `TD.Inv.copyFromTooDee_eq`, `Acc.Of.copyWithin_eq`); the `C14_*` theorems are its two halves.

  Not covered: the element's `Clone::clone` is not modelled (`clone_*` shares the transcription of `copy_*`, Impl/Copy.lean), so a `clone`
  that panics after some rows have been written is outside these theorems; C11's header counts `clone` among std's responsibilities.
-/
namespace Toodee
variable {α : Type}

/-- `src.length < WORD` records that a slice's length is a `usize`; `Acc.Of.copyFromSlice_eq` holds without it -/
theorem C14_copy_from_slice_default (m : Mode) (v : VW) (buf : List α) (h : v.Inv buf.length) (a : Acc)
    (ha : a.Of v buf.length) (src : List α) :
    (v.numCols * v.numRows = src.length →
      a.copyFromSlice m buf src = .ok (v.updCells buf fun cr => src[cr.2 * v.numCols + cr.1]?)) ∧
    (v.numCols * v.numRows ≠ src.length → src.length < WORD → a.copyFromSlice m buf src = .error .panic) :=
  have he := Res.eq_ite_iff.1 (ha.copyFromSlice_eq h m src)
  ⟨he.1, fun hlen _ => he.2 hlen⟩

theorem C14_copy_from_slice_owned (t : TD α) (h : t.Inv) (src : List α) :
    (t.numCols * t.numRows = src.length →
      t.copyFromSlice src = .ok src ∧ src = t.asView.updCells t.data fun cr => src[cr.2 * t.numCols + cr.1]?) ∧
    (t.numCols * t.numRows ≠ src.length → t.copyFromSlice src = .error .panic) :=
  have he := Res.eq_ite_iff.1 (h.copyFromSlice_eq src)
  have hsrc := fun hlen : t.numCols * t.numRows = src.length => h.updCells_eq src hlen.symm _ fun _ _ _ _ => rfl
  ⟨fun hlen => ⟨(he.1 hlen).trans (congrArg Except.ok (hsrc hlen)), (hsrc hlen).symm⟩, he.2⟩

theorem C14_copy_from_toodee_default (v : VW) (buf : List α) (h : v.Inv buf.length) (a : Acc)
    (ha : a.Of v buf.length) (sv : VW) (sbuf : List α) (hs : sv.Inv sbuf.length) (sa : Acc) (hsa : sa.Of sv sbuf.length) :
    ((v.numCols = sv.numCols ∧ v.numRows = sv.numRows) →
      a.copyFromTooDee buf sa sbuf = .ok (v.updCells buf fun cr => sbuf[sv.pos cr.1 cr.2]?)) ∧
    (¬ (v.numCols = sv.numCols ∧ v.numRows = sv.numRows) → a.copyFromTooDee buf sa sbuf = .error .panic) :=
  Res.eq_ite_iff.1 (ha.copyFromTooDee_eq h sv sbuf hs sa hsa)

theorem C14_copy_from_toodee_owned (t : TD α) (h : t.Inv) (sv : VW) (sbuf : List α) (hs : sv.Inv sbuf.length)
    (sa : Acc) (hsa : sa.Of sv sbuf.length) :
    ((t.numCols = sv.numCols ∧ t.numRows = sv.numRows) →
      t.copyFromTooDee sa sbuf = .ok (t.asView.updCells t.data fun cr => sbuf[sv.pos cr.1 cr.2]?)) ∧
    (¬ (t.numCols = sv.numCols ∧ t.numRows = sv.numRows) → t.copyFromTooDee sa sbuf = .error .panic) :=
  Res.eq_ite_iff.1 (h.copyFromTooDee_eq sv sbuf hs sa hsa)

theorem C14_copy_within (m : Mode) (v : VW) (buf : List α) (h : v.Inv buf.length) (a : Acc) (ha : a.Of v buf.length)
    (indexRowMut : Nat → Res Win) (hidx : ∀ r, r < v.numRows → indexRowMut r = .ok (v.rowWin r))
    (tl br dest : Nat × Nat)
    (hw : tl.1 < WORD ∧ tl.2 < WORD ∧ br.1 < WORD ∧ br.2 < WORD ∧ dest.1 < WORD ∧ dest.2 < WORD) :
    (rectsFit v.numCols v.numRows tl br dest →
      a.copyWithin m indexRowMut buf tl br dest = .ok (v.updCells buf (copyWithinCells v buf tl br dest))) ∧
    (¬ rectsFit v.numCols v.numRows tl br dest →
      a.copyWithin m indexRowMut buf tl br dest = .error .panic) :=
  have _ := hw; Res.eq_ite_iff.1 (ha.copyWithin_eq h m indexRowMut hidx tl br dest)

/-- non-vacuity: `copy_from_slice` into a 2x2 window (stride 3, offset 1) of an 8-cell buffer writes exactly its four cells
    (concrete computation); the `TooDee` override on a concrete 3x2 array (`C14_copy_from_slice_owned`) -/
example : (⟨2, 2, ⟨⟨1, 5⟩, 2, 1⟩⟩ : Acc).copyFromSlice .debug [0, 1, 2, 3, 4, 5, 6, 7] [10, 11, 12, 13] =
      .ok [0, 10, 11, 3, 12, 13, 6, 7] ∧
    TD.copyFromSlice (⟨[1, 2, 3, 4, 5, 6], 2, 3⟩ : TD Nat) [6, 5, 4, 3, 2, 1] = .ok [6, 5, 4, 3, 2, 1] :=
  ⟨by rfl, ((C14_copy_from_slice_owned _ ⟨rfl, by decide, by decide⟩ [6, 5, 4, 3, 2, 1]).1 rfl).1⟩
/-- non-vacuity of `C14_copy_from_slice_default`: its hypotheses hold for that window; a slice of the wrong length panics -/
example : (⟨2, 2, ⟨⟨1, 5⟩, 2, 1⟩⟩ : Acc).copyFromSlice .release [0, 1, 2, 3, 4, 5, 6, 7] [10, 11, 12] = .error .panic :=
  (C14_copy_from_slice_default .release ⟨⟨1, 5⟩, 2, 2, 3⟩ [0, 1, 2, 3, 4, 5, 6, 7]
    ⟨by decide, by decide, by decide, by decide, by decide, by decide⟩ _
    ⟨rfl, rfl, ⟨by decide, by decide, by decide, by decide, by decide⟩, rfl⟩ [10, 11, 12]).2 (by decide) (by decide)
/-- non-vacuity: `copy_within` of the rectangle `(0,0)..(2,1)` to `(1,1)` in a concrete 3x2 array: the rectangles fit (and
    would not at `(2,1)`), the call evaluates, and the hypotheses of `C14_copy_within` (row accessor included) hold -/
example : rectsFit 3 2 (0, 0) (2, 1) (1, 1) ∧ ¬ rectsFit 3 2 (0, 0) (2, 1) (2, 1) ∧
    (TD.acc (⟨[1, 2, 3, 4, 5, 6], 2, 3⟩ : TD Nat)).copyWithin .debug (fun r => .ok ⟨r * 3, 3⟩) [1, 2, 3, 4, 5, 6]
      (0, 0) (2, 1) (1, 1) = .ok [1, 2, 3, 4, 1, 2] := ⟨by decide, by decide, by rfl⟩
example : (TD.acc (⟨[1, 2, 3, 4, 5, 6], 2, 3⟩ : TD Nat)).copyWithin .debug (fun r => .ok ⟨r * 3, 3⟩) [1, 2, 3, 4, 5, 6]
    (0, 0) (2, 1) (1, 1) = .ok ((TD.asView (⟨[1, 2, 3, 4, 5, 6], 2, 3⟩ : TD Nat)).updCells [1, 2, 3, 4, 5, 6]
      (copyWithinCells (TD.asView (⟨[1, 2, 3, 4, 5, 6], 2, 3⟩ : TD Nat)) [1, 2, 3, 4, 5, 6] (0, 0) (2, 1) (1, 1))) :=
  (C14_copy_within .debug (TD.asView (⟨[1, 2, 3, 4, 5, 6], 2, 3⟩ : TD Nat)) [1, 2, 3, 4, 5, 6]
    (TD.Inv.asView ⟨rfl, by decide, by decide⟩) _ (Acc.Of.owned ⟨rfl, by decide, by decide⟩)
    (fun r => .ok ⟨r * 3, 3⟩) (fun r _ => by simp [VW.rowWin, VW.pos, TD.asView, TD.win]) (0, 0) (2, 1) (1, 1)
    (by decide)).1 (by decide)

end Toodee
