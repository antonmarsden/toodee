import Toodee.Proofs.SpecCells
import Toodee.Properties.C10
import Toodee.Properties.C08
/-
  C04 — Operations on a mutable view never touch cells outside it (operation level).

  `Properties/C04Frame.lean` says what the two result forms `gather buf (v.mapCells g)` / `v.updCells buf h` mean.  Here the claim
  is closed over the operations themselves: for **every** mutating operation `op : MOp α` (indexed writes, fill, the swap
  family, the copy operations incl. `copy_within`, translate, flips, every sort variant with any — possibly panicking —
  comparator), with **every** argument, valid or not, called on **any** mutable view `v` of a root buffer (`Recv.run` on
  `Recv.vmut v`: the trait defaults, `TooDeeViewMut`'s own `Index*`, `col`, `get_unchecked_row_mut`, `swap_rows`), in both modes:
  * the call never ends in undefined behaviour;
  * if it succeeds, the root buffer keeps its length, every position outside the view's rectangle keeps its content, and the
    view's cells afterwards are exactly the cells the *same call on an owned array holding the same cells* produces
    (`Recv.run` on `Recv.root (v.ownedOf buf)`: `TooDee`'s overrides);
  * if it is rejected (or caller code panics), the same call on the owned array ends the same way.
  Mutable iteration hands out only cells of the view.

  In this file: `VW.ownedOf` (definition), `C04_owned_of_inv`, `VW.ownedOf_asView`; `C04_run_view` (the refinement on views, an
  instance of `Recv.Sound.run_eq_spec`); `C04_spec_frame`, `C04_spec_same_cells` (the two projections of `MOp.SpecPair.facts`);
  `C04_view_op` (one call), `C04_view_ops`, `C04_view_ops_fail` (a sequence of calls); `C04_nested_frame` (a view made by
  `VW.view`; `VW.viewChecked` is not stated); `C04_iter_positions_view`.
-/
namespace Toodee
variable {α : Type}

/-- the owned array holding the same cells as the view (`TooDee::from(view)`, C20_from_view) -/
def VW.ownedOf (v : VW) (buf : List α) : TD α := ⟨v.cellsOf buf, v.numRows, v.numCols⟩

theorem C04_owned_of_inv (v : VW) (buf : List α) (h : v.Inv buf.length) : (v.ownedOf buf).Inv := by
  obtain ⟨hl, _⟩ := v.cellsOf_facts buf h
  exact ⟨hl, h.zero, hl ▸ h.area_word⟩

theorem VW.ownedOf_asView (v : VW) (buf : List α) (h : v.Inv buf.length) : (v.ownedOf buf).asView = v.ownedShape := by
  obtain ⟨hl, _⟩ := v.cellsOf_facts buf h
  show (⟨⟨0, (v.cellsOf buf).length⟩, v.numCols, v.numRows, v.numCols⟩ : VW) = _
  rw [hl]; rfl

/-- **the Impl-model refines the specification on views**: any operation, any arguments, any view, both modes -/
theorem C04_run_view (m : Mode) (lim : Nat) (v : VW) (buf : List α) (h : v.Inv buf.length) (op : MOp α)
    (hs : op.Sane) (hsrc : op.srcOk) :
    (Recv.vmut v).run m lim buf op = op.spec v lim buf :=
  Recv.Sound.run_eq_spec (rc := .vmut v) h rfl m lim op hs hsrc

/-- what the specification means: never `ub`, length kept, everything outside the view untouched (a projection of
    `MOp.SpecPair.facts`) -/
theorem C04_spec_frame (lim : Nat) (v : VW) (buf : List α) (h : v.Inv buf.length) (op : MOp α) (hs : op.Sane) :
    op.spec v lim buf ≠ .error .ub ∧ op.spec v lim buf ≠ .error .fuel ∧
    ∀ buf', op.spec v lim buf = .ok buf' → buf'.length = buf.length ∧ ∀ p, v.coord? p = none → buf'[p]? = buf[p]? := by
  obtain ⟨h1, h2, h3, _⟩ := (MOp.SpecPair.of_spec h lim op hs).facts h
  exact ⟨h1, h2, fun b hb => ⟨(h3 b hb).1, (h3 b hb).2.1⟩⟩

/-- the specification depends on the receiver only through its cells: on the owned copy of the view it gives the owned copy of
    the result, and it rejects exactly the same calls (the other projection of `MOp.SpecPair.facts`) -/
theorem C04_spec_same_cells (lim : Nat) (v : VW) (buf : List α) (h : v.Inv buf.length) (op : MOp α) (hs : op.Sane) :
    (∀ buf', op.spec v lim buf = .ok buf' → op.spec v.ownedShape lim (v.cellsOf buf) = .ok (v.cellsOf buf')) ∧
    (∀ e, op.spec v lim buf = .error e → op.spec v.ownedShape lim (v.cellsOf buf) = .error e) := by
  obtain ⟨_, _, h3, h4⟩ := (MOp.SpecPair.of_spec h lim op hs).facts h
  exact ⟨fun b hb => (h3 b hb).2.2, h4⟩

/-- **one call on a view**.  The owned receiver and its buffer are given separately (`Recv.root (v.ownedOf buf)` and `v.cellsOf buf`,
    the same cells twice) because `Recv.run` reads only the dimensions of an owned receiver (`Recv.run_root_data`): along a
    sequence of calls the buffer moves on while the receiver of `Recv.runAll` stays. -/
theorem C04_view_op (m : Mode) (lim : Nat) (v : VW) (buf : List α) (h : v.Inv buf.length) (op : MOp α)
    (hs : op.Sane) (hsrc : op.srcOk) :
    (Recv.vmut v).run m lim buf op ≠ .error .ub ∧ (Recv.vmut v).run m lim buf op ≠ .error .fuel ∧
    (∀ buf', (Recv.vmut v).run m lim buf op = .ok buf' →
      buf'.length = buf.length ∧ (∀ p, v.coord? p = none → buf'[p]? = buf[p]?) ∧
      (Recv.root (v.ownedOf buf)).run m lim (v.cellsOf buf) op = .ok (v.cellsOf buf')) ∧
    (∀ e, (Recv.vmut v).run m lim buf op = .error e →
      (Recv.root (v.ownedOf buf)).run m lim (v.cellsOf buf) op = .error e) := by
  have hown := Recv.Sound.run_eq_spec (rc := .root (v.ownedOf buf)) (buf := v.cellsOf buf) ⟨C04_owned_of_inv v buf h, rfl⟩ rfl
    m lim op hs hsrc
  rw [show (Recv.root (v.ownedOf buf)).asVW = v.ownedShape from VW.ownedOf_asView v buf h] at hown
  rw [C04_run_view m lim v buf h op hs hsrc, hown]
  exact (MOp.SpecPair.of_spec h lim op hs).facts h

private theorem view_ops_all (m : Mode) (lim : Nat) (v : VW) (buf : List α) (h : v.Inv buf.length) (ops : List (MOp α))
    (hs : ∀ op ∈ ops, op.Sane ∧ op.srcOk) :
    (Recv.vmut v).runAll m lim buf ops ≠ .error .ub ∧ (Recv.vmut v).runAll m lim buf ops ≠ .error .fuel ∧
    (∀ buf', (Recv.vmut v).runAll m lim buf ops = .ok buf' →
      buf'.length = buf.length ∧ (∀ p, v.coord? p = none → buf'[p]? = buf[p]?) ∧
      (Recv.root (v.ownedOf buf)).runAll m lim (v.cellsOf buf) ops = .ok (v.cellsOf buf')) ∧
    (∀ e, (Recv.vmut v).runAll m lim buf ops = .error e →
      (Recv.root (v.ownedOf buf)).runAll m lim (v.cellsOf buf) ops = .error e) := by
  induction ops generalizing buf with
  | nil =>
    refine ⟨nofun, nofun, fun b hb => ?_, nofun⟩
    obtain rfl : buf = b := Except.ok.inj hb
    exact ⟨rfl, fun _ _ => rfl, rfl⟩
  | cons op ops ih =>
    obtain ⟨hsop, hsrc⟩ := hs op (List.mem_cons_self ..)
    obtain ⟨o1, o2, o3, o4⟩ := C04_view_op m lim v buf h op hsop hsrc
    simp only [Recv.runAll]
    cases hr : (Recv.vmut v).run m lim buf op with
    | error e =>
      rw [hr] at o1 o2
      rw [o4 e hr]
      exact ⟨o1, o2, nofun, fun _ he => he⟩
    | ok b =>
      obtain ⟨l1, l2, l3⟩ := o3 b hr
      obtain ⟨i1, i2, i3, i4⟩ := ih b (l1 ▸ h) (fun op' hop' => hs op' (List.mem_cons_of_mem _ hop'))
      rw [l3, ok_bind, ok_bind, Recv.runAll_root_data m lim (v.ownedOf buf) (v.cellsOf b) (v.cellsOf b)]
      refine ⟨i1, i2, fun b' hb' => ?_, i4⟩
      obtain ⟨j1, j2, j3⟩ := i3 b' hb'
      exact ⟨j1.trans l1, fun p hp => (j2 p hp).trans (l2 p hp), j3⟩

/-- **any sequence of calls on the same view**: frame untouched, cells follow the owned array under the same calls -/
theorem C04_view_ops (m : Mode) (lim : Nat) (v : VW) (buf : List α) (h : v.Inv buf.length) (ops : List (MOp α))
    (hs : ∀ op ∈ ops, op.Sane ∧ op.srcOk) :
    (Recv.vmut v).runAll m lim buf ops ≠ .error .ub ∧ (Recv.vmut v).runAll m lim buf ops ≠ .error .fuel ∧
    (∀ buf', (Recv.vmut v).runAll m lim buf ops = .ok buf' →
      buf'.length = buf.length ∧ (∀ p, v.coord? p = none → buf'[p]? = buf[p]?) ∧
      (Recv.root (v.ownedOf buf)).runAll m lim (v.cellsOf buf) ops = .ok (v.cellsOf buf')) := by
  obtain ⟨h1, h2, h3, _⟩ := view_ops_all m lim v buf h ops hs
  exact ⟨h1, h2, h3⟩

/-- … and a sequence that is cut short by a rejected call (or a panic of caller code) is cut short on the owned array by the same
    error -/
theorem C04_view_ops_fail (m : Mode) (lim : Nat) (v : VW) (buf : List α) (h : v.Inv buf.length) (ops : List (MOp α))
    (hs : ∀ op ∈ ops, op.Sane ∧ op.srcOk) (e : Err) (he : (Recv.vmut v).runAll m lim buf ops = .error e) :
    (Recv.root (v.ownedOf buf)).runAll m lim (v.cellsOf buf) ops = .error e :=
  (view_ops_all m lim v buf h ops hs).2.2.2 e he

/-- nested views: a view of a view is a view of the same root buffer whose cells are cells of the outer view, so everything
    outside the *outer* view is outside the inner one too -/
theorem C04_nested_frame (m : Mode) (v : VW) (n : Nat) (h : v.Inv n) (s e : Nat × Nat) (v' : VW)
    (hv : v.view m s e = .ok v') :
    v'.Inv n ∧ ∀ p, v.coord? p = none → v'.coord? p = none := by
  rw [h.view_eq m s e] at hv
  cases hsv : specView v s e with
  | none => rw [hsv] at hv; cases hv
  | some v'' =>
    rw [hsv] at hv
    obtain rfl : v'' = v' := Except.ok.inj hv
    refine ⟨(h.specView_some hsv).inv, fun p hp => Option.not_isSome_iff_eq_none.1 fun hq => ?_⟩
    have := h.specView_cells hsv hq
    rw [hp] at this
    cases this

/-- what mutable iteration hands out are cells of the view: `rows_mut()`, `col_mut(c)` and `cells_mut()` of a view yield only
    positions that are cells of that view (so writes through them stay inside) -/
theorem C04_iter_positions_view (m : Mode) (v : VW) (n : Nat) (h : v.Inv n) :
    (∃ it, v.rows m = .ok it ∧ ∀ w ∈ it.abs v.numRows, ∀ p ∈ w.positions, (v.coord? p).isSome) ∧
    (∀ c, c < v.numCols → ∃ it, v.col m c = .ok it ∧ ∀ p ∈ it.abs v.numRows, (v.coord? p).isSome) ∧
    (∃ it, v.rows m = .ok it ∧ ∀ p ∈ (Flat.new it).abs v.numRows, (v.coord? p).isSome) := by
  have hcell : ∀ {c r}, c < v.numCols → r ∈ List.range v.numRows → (v.coord? (v.pos c r)).isSome := fun hc hr => by
    rw [h.coord?_pos hc (List.mem_range.1 hr)]; rfl
  refine ⟨?_, fun c hc => ?_, ?_⟩
  · obtain ⟨it, e1, _, habs⟩ := C08_rows_view m v n h
    refine ⟨it, e1, fun w hw p hp => ?_⟩
    rw [habs] at hw
    obtain ⟨r, hr, rfl⟩ := List.mem_map.1 hw
    obtain ⟨c, hc, rfl⟩ := (C04_iter_positions v n h).1 r (List.mem_range.1 hr) p hp
    exact hcell hc hr
  · obtain ⟨it, e1, _, habs⟩ := h.col_spec m c hc
    refine ⟨it, e1, fun p hp => ?_⟩
    rw [habs] at hp
    obtain ⟨r, hr, rfl⟩ := List.mem_map.1 hp
    exact hcell hc hr
  · obtain ⟨it, e1, _, habs, _, _⟩ := C10_cells_view m v n h
    refine ⟨it, e1, fun p hp => ?_⟩
    rw [habs] at hp
    obtain ⟨l, hl, hpl⟩ := List.mem_flatten.1 hp
    obtain ⟨r, hr, rfl⟩ := List.mem_map.1 hl
    obtain ⟨c, hc, rfl⟩ := List.mem_map.1 hpl
    exact hcell (List.mem_range.1 hc) hr

/-- non-vacuity: fill on the interior window (1,1)-(3,2) of a 4x3 array (stride 4): only the two cells of the window change -/
example : (Recv.vmut ⟨⟨5, 2⟩, 2, 1, 4⟩).run .debug 100 [0, 1, 2, 3, 4, 5, 6, 7, 8, 9, 10, 11] (.fill 77)
    = .ok [0, 1, 2, 3, 4, 77, 77, 7, 8, 9, 10, 11] := by
  rfl

end Toodee
