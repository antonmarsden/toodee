import Toodee.Properties.C04
import Toodee.Properties.C13Dispatch
/-
  C16 / C17 (method part) — each of the eleven public sort methods, on every receiver kind, is the one transcribed body of its
  line kind (`MOp.sortRow` / `MOp.sortCol`, to which C16_sort_row_with / C17_sort_col_with and the refinement theorems
  C04_run_view / C13_run_owned apply) with the side sort the method's name promises: the stable sort under the caller's order for
  the six stable methods, the returned permutation for the five unstable ones.  `Recv.runSort` is what the correspondence driver
  executes for a sort line.
-/
namespace Toodee
variable {α : Type}

/-- the operation a sort method stands for -/
def SortMethod.op (meth : SortMethod) (le : α → α → Bool) (p : List Nat) (k : Nat) : MOp α :=
  if meth.isRow then .sortRow (if meth.isStable then sideStable le else sideGiven p) k
  else .sortCol (if meth.isStable then sideStable le else sideGiven p) k

theorem C16_methods_dispatch (m : Mode) (lim : Nat) (rc : Recv α) (buf : List α) (meth : SortMethod) (le : α → α → Bool)
    (p : List Nat) (k : Nat) :
    rc.runSort m lim buf meth le p k =
      rc.run m lim buf
        (if meth.isRow then .sortRow (if meth.isStable then sideStable le else sideGiven p) k
         else .sortCol (if meth.isStable then sideStable le else sideGiven p) k) := by
  cases meth <;> rfl

/-- `meth.op` respects std's contract for **all eleven** methods, the unstable ones included (whatever permutation `p` the side
    sort is taken to return): the hypothesis `op.Sane` of the refinement theorems is met -/
theorem C16_methods_sane (meth : SortMethod) (le : α → α → Bool) (p : List Nat) (k : Nat) : (meth.op le p k).Sane := by
  have hs : (if meth.isStable then sideStable le else sideGiven p : SideSort α).Sane := by
    split
    · exact sideStable_sane le
    · exact sideGiven_sane p
  unfold SortMethod.op
  split <;> exact hs

theorem SortMethod.op_srcOk (meth : SortMethod) (le : α → α → Bool) (p : List Nat) (k : Nat) : (meth.op le p k).srcOk := by
  unfold SortMethod.op
  split <;> trivial

/-- **every sort method on a view is its specification** (`MOp.spec`: the cell-wise statement; nothing outside the view moves —
    C04_spec_frame), stable and unstable alike -/
theorem C16_methods_view (m : Mode) (lim : Nat) (v : VW) (buf : List α) (h : v.Inv buf.length) (meth : SortMethod)
    (le : α → α → Bool) (p : List Nat) (k : Nat) :
    (Recv.vmut v).runSort m lim buf meth le p k = (meth.op le p k).spec v lim buf := by
  rw [C16_methods_dispatch]
  exact C04_run_view m lim v buf h (meth.op le p k) (C16_methods_sane meth le p k) (meth.op_srcOk le p k)

/-- … on an owned array and on a third-party implementor -/
theorem C16_methods_owned (m : Mode) (lim : Nat) (t : TD α) (h : t.Inv) (meth : SortMethod)
    (le : α → α → Bool) (p : List Nat) (k : Nat) :
    (Recv.root t).runSort m lim t.data meth le p k = (meth.op le p k).spec t.asView lim t.data ∧
    (Recv.ext t).runSort m lim t.data meth le p k = (meth.op le p k).spec t.asView lim t.data := by
  rw [C16_methods_dispatch, C16_methods_dispatch]
  exact ⟨C13_run_owned m lim t h _ (C16_methods_sane meth le p k) (meth.op_srcOk le p k),
    C13_run_ext m lim t h _ (C16_methods_sane meth le p k) (meth.op_srcOk le p k)⟩

/-- **general key functions**: `Recv.runSort` carries one order `le`; calling a `*_key` method with key function `key` (keys ordered
    by `leK`) on any receiver is `runSort` of that method with `le x y := leK (key x) (key y)` (src/sort.rs: the `*_key` wrappers
    build exactly this comparator; transcribed as `Acc.sortByRowKey` / `Acc.sortByColKey`, Impl/Sort.lean), so the theorems above — and the ordered / ties-keep-their-order statements
    `C16_sort_by_row_key_ordered`, `C17_sort_by_col_key_ordered` — cover every key function, not only the identity -/
theorem C16_methods_key {κ : Type} (m : Mode) (lim : Nat) (rc : Recv α) (buf : List α) (key : α → κ) (leK : κ → κ → Bool)
    (p : List Nat) (k : Nat) :
    (do let rc' := rc.setBuf buf
        let a ← rc'.acc m
        a.sortByRowKey (rc'.indexRow m) buf lim key leK k)
      = rc.runSort m lim buf .sort_by_row_key (fun x y => leK (key x) (key y)) p k ∧
    (do let rc' := rc.setBuf buf
        let a ← rc'.acc m
        a.sortByColKey (rc'.col m) (rc'.swapRows m) buf lim key leK k)
      = rc.runSort m lim buf .sort_by_col_key (fun x y => leK (key x) (key y)) p k :=
  ⟨rfl, rfl⟩

/-- the side sort of the unstable methods on concrete keys: the permutation it is given, or nothing std could have returned.  The
    model maps such an input to a panic (`sideGiven`, Impl/Sort.lean) instead of excluding it by a hypothesis: that is what makes
    `C16_methods_sane` hypothesis-free. -/
example : (sideGiven [1, 0] : SideSort Nat) [5, 6] = .ok [1, 0] ∧ (sideGiven [1, 1] : SideSort Nat) [5, 6] = .error .panic := ⟨rfl, rfl⟩

end Toodee
