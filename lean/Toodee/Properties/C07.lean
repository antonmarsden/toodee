import Toodee.Proofs.DrainLemmas
/-
  C07 — Removing a row or column yields it in order and closes the gap.

  `remove_row` wraps `Vec::drain` (a std component with specified behaviour): the drain holds exactly the removed row;
  consuming it from either end only shortens `items`; dropping it at any stage leaves the original without that row.
  `remove_col` returns a strided cursor (`Col`, property C09) over the hidden buffer; dropping the `DrainCol` at any stage
  of consumption compacts the buffer to the original without that column.  Removing the last remaining line leaves `(0,0)`.
  Out-of-range indices panic, `pop_*` on an empty array returns `None`.

  Which theorem stands for which clause: what the call returns, `C07_remove_row` / `C07_remove_col` (`_reject`: the panic; `C07_pop_*`);
  "yields in order from either end", `C07_drain_row_steps` / `C07_drain_col_next` with `C07_drain_col_cells_exist`; "once dropped",
  `C07_remove_row_drop` / `C07_remove_col_drop` (citations of `TD.Inv.eraseRow` / `eraseCol` and the drop equations of RemoveLemmas);
  a whole lifetime along any word of `next` / `next_back`, `C07_remove_row_run` / `C07_remove_col_run` (over `Seq.ends`, `C07_ends_perm`).
-/
namespace Toodee
variable {α : Type}

/-- the cells of row `i`, left to right -/
def TD.rowCells (t : TD α) (i : Nat) : List α := (t.data.drop (i * t.numCols)).take t.numCols

/-- the cells of column `i`, top to bottom -/
def TD.colCells (t : TD α) (i : Nat) : List α := (List.range t.numRows).filterMap fun r => t.data[t.pos i r]?

/-- `remove_row(i)`: the drain holds row `i`; `pre`/`tail` are the cells before/after it -/
theorem C07_remove_row (m : Mode) (t : TD α) (h : t.Inv) (i : Nat) (hi : i < t.numRows) :
    ∃ d, t.removeRow m i = .ok d ∧
      d.items = (t.data.drop (i * t.numCols)).take t.numCols ∧
      d.pre = t.data.take (i * t.numCols) ∧ d.tail = t.data.drop ((i + 1) * t.numCols) ∧
      d.finalRows = t.numRows - 1 ∧ d.finalCols = (if t.numRows = 1 then 0 else t.numCols) := by
  refine ⟨_, h.removeRow_ok m hi, rfl, rfl, ?_, rfl, ?_⟩
  · show t.data.drop (i * t.numCols + t.numCols) = _
    rw [Nat.succ_mul]
  · show (if t.numRows - 1 = 0 then 0 else t.numCols) = _
    simp only [Nat.sub_eq_iff_eq_add (Nat.zero_lt_of_lt hi), Nat.zero_add]

/-- the drain is an ideal double-ended sequence over the removed row, and consuming it changes nothing else -/
theorem C07_drain_row_steps (d : DrainRow α) :
    (d.next.1 = (Seq.next d.items).1 ∧ d.next.2 = { d with items := (Seq.next d.items).2 }) ∧
    (d.nextBack.1 = (Seq.nextBack d.items).1 ∧ d.nextBack.2 = { d with items := (Seq.nextBack d.items).2 }) ∧
    d.len = d.items.length :=
  ⟨⟨congrArg Prod.fst (DrainRow.step_eq d true), congrArg Prod.snd (DrainRow.step_eq d true)⟩,
    ⟨congrArg Prod.fst (DrainRow.step_eq d false), congrArg Prod.snd (DrainRow.step_eq d false)⟩, rfl⟩

/-- dropping the drain (whatever is left in `items`): the original without row `i`, invariant kept, rest dropped -/
theorem C07_remove_row_drop (m : Mode) (t : TD α) (h : t.Inv) (i : Nat) (hi : i < t.numRows)
    (d : DrainRow α) (hd : t.removeRow m i = .ok d) (items' : List α) :
    let r := ({ d with items := items' } : DrainRow α).drop
    r.2 = items' ∧ r.1.Inv ∧
    r.1.data = t.data.take (i * t.numCols) ++ t.data.drop ((i + 1) * t.numCols) ∧
    r.1.numRows = t.numRows - 1 ∧ r.1.numCols = (if t.numRows = 1 then 0 else t.numCols) ∧
    r.1.grid = t.grid.eraseIdx i := by
  obtain ⟨he, hinv, hgrid⟩ := h.eraseRow hi
  rw [DrainRow.drop_of_removeRow h m hi hd]
  exact ⟨rfl, hinv, congrArg TD.data he, congrArg TD.numRows he, congrArg TD.numCols he, hgrid⟩

theorem C07_remove_row_reject (m : Mode) (t : TD α) (i : Nat) (hi : ¬ i < t.numRows) :
    t.removeRow m i = .error .panic := by
  unfold TD.removeRow
  rw [if_pos hi]
  rfl

theorem C07_pop_row (m : Mode) (t : TD α) (h : t.Inv) :
    (t.numRows = 0 → t.popRow m = .ok none) ∧
    (t.numRows ≠ 0 → t.popRow m = (t.removeRow m (t.numRows - 1)).map some) := by
  have _ := h  -- not needed: `pop_row` only tests `num_rows`; the property is stated for valid arrays
  refine ⟨fun h0 => by simp [TD.popRow, h0], fun h0 => ?_⟩
  unfold TD.popRow
  rw [if_pos h0, usub_ok m (Nat.pos_of_ne_zero h0), ok_bind]
  cases t.removeRow m (t.numRows - 1) <;> rfl

/-- `remove_col(i)`: the cursor stands for the cells of column `i`, top to bottom -/
theorem C07_remove_col (m : Mode) (t : TD α) (h : t.Inv) (i : Nat) (hi : i < t.numCols) :
    ∃ d, t.removeCol m i = .ok d ∧ d.buf = t.data ∧ d.col = i ∧ d.numCols = t.numCols ∧ d.numRows = t.numRows ∧
      d.taken = [] ∧ d.iter.WF t.numRows t.data.length ∧
      d.iter.abs t.numRows = (List.range t.numRows).map fun r => t.pos i r := by
  -- `remove_col` builds its cursor from the same two numbers as `col_mut`: `skip: num_cols - 1` over the `len - num_cols + 1` cells
  -- from `ptr.add(index)` on; so the cursor is `col_mut(i)`'s and its facts are those of C09
  obtain ⟨hwf, habs⟩ := h.col_cursor hi
  exact ⟨_, h.removeCol_ok m hi, rfl, rfl, rfl, rfl, rfl, hwf, habs⟩

/-- `DrainCol::next` / `next_back`: move out the cell the column cursor yields -/
theorem C07_drain_col_next (m : Mode) (d : DrainCol α) (k : Nat) (hwf : d.iter.WF k d.buf.length) :
    (∃ d', d.next = .ok (((Seq.next (d.iter.abs k)).1).bind (d.buf[·]?), d') ∧
        d'.iter.WF (k - 1) d.buf.length ∧ d'.iter.abs (k - 1) = (Seq.next (d.iter.abs k)).2 ∧
        d'.buf = d.buf ∧ d'.col = d.col ∧ d'.numCols = d.numCols ∧ d'.numRows = d.numRows) ∧
    (∃ d', d.nextBack m = .ok (((Seq.nextBack (d.iter.abs k)).1).bind (d.buf[·]?), d') ∧
        d'.iter.WF (k - 1) d.buf.length ∧ d'.iter.abs (k - 1) = (Seq.nextBack (d.iter.abs k)).2 ∧
        d'.buf = d.buf ∧ d'.col = d.col ∧ d'.numCols = d.numCols ∧ d'.numRows = d.numRows) ∧
    d.len m = .ok k := by
  obtain ⟨it1, hwf1, habs1, h1⟩ := DrainCol.step_spec m d k hwf true
  obtain ⟨it2, hwf2, habs2, h2⟩ := DrainCol.step_spec m d k hwf false
  exact ⟨⟨_, h1, hwf1, habs1, rfl, rfl, rfl, rfl⟩, ⟨_, h2, hwf2, habs2, rfl, rfl, rfl, rfl⟩, Col.sizeHint_spec hwf m⟩

/-- what the column drain moves out are real cells: every position the cursor still stands for holds an element of the buffer
    (so the `Option.bind` in C07_drain_col_next never hides a missing cell) -/
theorem C07_drain_col_cells_exist (d : DrainCol α) (k : Nat) (hwf : d.iter.WF k d.buf.length) :
    ∀ p ∈ d.iter.abs k, ∃ x, d.buf[p]? = some x := by
  intro p hp
  have hlt : p < d.buf.length := hwf.abs_inside p hp
  exact ⟨d.buf[p], List.getElem?_eq_getElem hlt⟩

/-- dropping a `DrainCol` at any stage of consumption (cursor with `k` cells left): the remaining column cells are dropped,
    the buffer is compacted to the original without column `i`, the invariant holds -/
theorem C07_remove_col_drop (m : Mode) (t : TD α) (h : t.Inv) (i : Nat) (hi : i < t.numCols)
    (d : DrainCol α) (hb : d.buf = t.data) (hc : d.col = i) (hnc : d.numCols = t.numCols) (hnr : d.numRows = t.numRows)
    (k : Nat) (hwf : d.iter.WF k t.data.length) :
    ∃ t' dropped, d.drop m = .ok (t', dropped) ∧ t'.Inv ∧
      dropped = (d.iter.abs k).filterMap (t.data[·]?) ∧
      t'.data = (t.grid.map fun ρ => ρ.eraseIdx i).flatten ∧
      t'.numCols = t.numCols - 1 ∧ t'.numRows = (if t.numCols = 1 then 0 else t.numRows) ∧
      t'.grid = (if t.numCols = 1 then [] else t.grid.map fun ρ => ρ.eraseIdx i) := by
  obtain ⟨he, hinv, hgrid⟩ := h.eraseCol hi
  exact ⟨_, _, DrainCol.drop_ok h m hi d hb hc hnc hnr k hwf, hinv, rfl, rfl, congrArg TD.numCols he,
    congrArg TD.numRows he, hgrid⟩

theorem C07_remove_col_reject (m : Mode) (t : TD α) (i : Nat) (hi : ¬ i < t.numCols) :
    t.removeCol m i = .error .panic := by
  unfold TD.removeCol
  rw [if_pos hi]
  rfl

theorem C07_pop_col (m : Mode) (t : TD α) (h : t.Inv) :
    (t.numCols = 0 → t.popCol m = .ok none) ∧
    (t.numCols ≠ 0 → t.popCol m = (t.removeCol m (t.numCols - 1)).map some) := by
  have _ := h  -- not needed: `pop_col` only tests `num_cols`; the property is stated for valid arrays
  refine ⟨fun h0 => by simp [TD.popCol, h0], fun h0 => ?_⟩
  unfold TD.popCol
  rw [if_pos h0, usub_ok m (Nat.pos_of_ne_zero h0), ok_bind]
  cases t.removeCol m (t.numCols - 1) <;> rfl

/-- the ideal sequence conserves items along any word -/
theorem C07_ends_perm {ι : Type} (l : List ι) (w : List Bool) : ((Seq.ends l w).1 ++ (Seq.ends l w).2).Perm l :=
  Seq.ends_perm l w

/-- `remove_row(i)`, any consumption `w` from either end, then drop: what is yielded is what the ideal sequence over the row's
    cells yields along `w`; the rest is dropped by the drain; the array is the old one without row `i` — whatever `w` was -/
theorem C07_remove_row_run (m : Mode) (t : TD α) (h : t.Inv) (i : Nat) (hi : i < t.numRows) (w : List Bool) :
    ∃ d, t.removeRow m i = .ok d ∧
      (d.run w).1 = (Seq.ends (t.rowCells i) w).1 ∧ (d.run w).2.drop.2 = (Seq.ends (t.rowCells i) w).2 ∧
      (d.run w).2.drop.1.Inv ∧ (d.run w).2.drop.1.grid = t.grid.eraseIdx i ∧
      ((d.run w).1 ++ (d.run w).2.drop.2).Perm (t.rowCells i) := by
  have hd := h.removeRow_ok m hi
  obtain ⟨hys, hdrop⟩ := DrainRow.run_drop_of_removeRow h m hi hd w
  obtain ⟨_, hinv, hgrid⟩ := h.eraseRow hi
  refine ⟨_, hd, ?_⟩
  rw [hdrop, hys]
  exact ⟨rfl, rfl, hinv, hgrid, Seq.ends_perm (t.rowCells i) w⟩

/-- `remove_col(i)`, any consumption `w` from either end, then drop: as for the row, with the drain after the run and the results
    of `run` and `drop` named because both are in `Res`.  What is yielded and what is dropped are stated as cells, against the ideal
    sequence over `t.colCells i`, not as positions of the cursor; the array is the old one without column `i` — whatever `w` was -/
theorem C07_remove_col_run (m : Mode) (t : TD α) (h : t.Inv) (i : Nat) (hi : i < t.numCols) (w : List Bool) :
    ∃ d ys d' t' dropped, t.removeCol m i = .ok d ∧ d.run m w = .ok (ys, d') ∧ d'.drop m = .ok (t', dropped) ∧
      ys = (Seq.ends (t.colCells i) w).1 ∧ dropped = (Seq.ends (t.colCells i) w).2 ∧
      t'.Inv ∧ t'.grid = (if t.numCols = 1 then [] else t.grid.map fun ρ => ρ.eraseIdx i) ∧
      (ys ++ dropped).Perm (t.colCells i) := by
  have hd := h.removeCol_ok m hi
  obtain ⟨d', hrun, hdrop⟩ := DrainCol.run_drop_of_removeCol h m hi hd w
  obtain ⟨_, hinv, hgrid⟩ := h.eraseCol hi
  exact ⟨_, _, d', _, _, hd, hrun, hdrop, rfl, rfl, hinv, hgrid, Seq.ends_perm (t.colCells i) w⟩

/-- non-vacuity: remove column 1 of a 3x2 array, take one item from the back, drop -/
example : (do let d ← TD.removeCol .debug (⟨[1, 2, 3, 4, 5, 6], 2, 3⟩ : TD Nat) 1
              let (x, d) ← d.nextBack .debug
              let (t', dropped) ← d.drop .debug
              pure (x, t', dropped)) = .ok (some 5, ⟨[1, 3, 4, 6], 2, 2⟩, [2]) := by rfl

end Toodee
