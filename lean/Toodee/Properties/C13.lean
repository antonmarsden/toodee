import Toodee.Proofs.SwapLemmas
/-
  C13 — Swap and fill primitives change exactly the named cells.

  Three implementors: the `TooDee` overrides (`TD.swap`, `TD.swapRows`, `TD.fill`), the `TooDeeViewMut::swap_rows`
  override (`VW.swapRows`), and the trait defaults (`Acc.*`, used by views for everything else and by third-party types
  for everything).  For each: in-range arguments give exactly the stated exchange (as a cell permutation of the receiver,
  hence every other cell of the root buffer unchanged; equal names give the identity); any out-of-range index — and
  `r1 = r2` for `row_pair_mut` — panics; never `ub`; both build modes; all indices `< 2^64`.

  Each outcome is one equation for every argument in Proofs/SwapLemmas.lean (`TD.Inv.swap_eq`, `*.swapRows_eq`, `Acc.Of.swap_eq`,
  `Acc.Of.swapCols_eq`, `Acc.Of.rowPairMut_eq`: `call = if in range then .ok … else .error .panic`); the `C13_*` theorems are its two halves.
-/
namespace Toodee
variable {α : Type}

/-- `hw` records that the arguments are `usize`s; `TD.Inv.swap_eq` holds without it (likewise in the `C13_*` theorems below) -/
theorem C13_swap_owned (m : Mode) (t : TD α) (h : t.Inv) (c1 r1 c2 r2 : Nat)
    (hw : c1 < WORD ∧ r1 < WORD ∧ c2 < WORD ∧ r2 < WORD) :
    ((c1 < t.numCols ∧ c2 < t.numCols ∧ r1 < t.numRows ∧ r2 < t.numRows) →
      t.swap m c1 r1 c2 r2 = .ok (gather t.data (t.asView.mapCells (swapCellG (c1, r1) (c2, r2))))) ∧
    (¬ (c1 < t.numCols ∧ c2 < t.numCols ∧ r1 < t.numRows ∧ r2 < t.numRows) →
      t.swap m c1 r1 c2 r2 = .error .panic) :=
  have _ := hw; Res.eq_ite_iff.1 (h.swap_eq m c1 r1 c2 r2)

theorem C13_swap_rows_owned (m : Mode) (t : TD α) (h : t.Inv) (r1 r2 : Nat) (hw : r1 < WORD ∧ r2 < WORD) :
    ((r1 < t.numRows ∧ r2 < t.numRows) →
      t.swapRows m r1 r2 = .ok (gather t.data (t.asView.mapCells (swapRowsG r1 r2)))) ∧
    (¬ (r1 < t.numRows ∧ r2 < t.numRows) → t.swapRows m r1 r2 = .error .panic) :=
  have _ := hw; Res.eq_ite_iff.1 (h.swapRows_eq m r1 r2)

theorem C13_swap_rows_view (m : Mode) (v : VW) (buf : List α) (h : v.Inv buf.length) (r1 r2 : Nat)
    (hw : r1 < WORD ∧ r2 < WORD) :
    ((r1 < v.numRows ∧ r2 < v.numRows) →
      v.swapRows m buf r1 r2 = .ok (gather buf (v.mapCells (swapRowsG r1 r2)))) ∧
    (¬ (r1 < v.numRows ∧ r2 < v.numRows) → v.swapRows m buf r1 r2 = .error .panic) :=
  have _ := hw; Res.eq_ite_iff.1 (h.swapRows_eq m r1 r2)

theorem C13_swap_rows_default (m : Mode) (v : VW) (buf : List α) (h : v.Inv buf.length) (a : Acc)
    (ha : a.Of v buf.length) (r1 r2 : Nat) (hw : r1 < WORD ∧ r2 < WORD) :
    ((r1 < v.numRows ∧ r2 < v.numRows) →
      a.swapRows m buf r1 r2 = .ok (gather buf (v.mapCells (swapRowsG r1 r2)))) ∧
    (¬ (r1 < v.numRows ∧ r2 < v.numRows) → a.swapRows m buf r1 r2 = .error .panic) :=
  have _ := hw; Res.eq_ite_iff.1 (ha.swapRows_eq h m r1 r2)

theorem C13_swap_default (m : Mode) (v : VW) (buf : List α) (h : v.Inv buf.length) (a : Acc) (ha : a.Of v buf.length)
    (c1 r1 c2 r2 : Nat) (hw : c1 < WORD ∧ r1 < WORD ∧ c2 < WORD ∧ r2 < WORD) :
    ((c1 < v.numCols ∧ c2 < v.numCols ∧ r1 < v.numRows ∧ r2 < v.numRows) →
      a.swap m buf (c1, r1) (c2, r2) = .ok (gather buf (v.mapCells (swapCellG (c1, r1) (c2, r2))))) ∧
    (¬ (c1 < v.numCols ∧ c2 < v.numCols ∧ r1 < v.numRows ∧ r2 < v.numRows) →
      a.swap m buf (c1, r1) (c2, r2) = .error .panic) :=
  have _ := hw; Res.eq_ite_iff.1 (ha.swap_eq h m c1 r1 c2 r2)

theorem C13_swap_cols (v : VW) (buf : List α) (h : v.Inv buf.length) (a : Acc) (ha : a.Of v buf.length)
    (c1 c2 : Nat) :
    ((c1 < v.numCols ∧ c2 < v.numCols) →
      a.swapCols buf c1 c2 = .ok (gather buf (v.mapCells (swapColsG c1 c2)))) ∧
    (¬ (c1 < v.numCols ∧ c2 < v.numCols) → a.swapCols buf c1 c2 = .error .panic) :=
  Res.eq_ite_iff.1 (ha.swapCols_eq h c1 c2)

/-- `row_pair_mut` (trait default, never overridden; the three implementors reach it through `C13_acc_owned` / `C13_acc_view`) -/
theorem C13_row_pair (m : Mode) (v : VW) (n : Nat) (h : v.Inv n) (a : Acc) (ha : a.Of v n)
    (r1 r2 : Nat) (hw : r1 < WORD ∧ r2 < WORD) :
    ((r1 < v.numRows ∧ r2 < v.numRows ∧ r1 ≠ r2) →
      a.rowPairMut m r1 r2 = .ok (v.rowWin r1, v.rowWin r2) ∧ Win.Disjoint (v.rowWin r1) (v.rowWin r2)) ∧
    (¬ (r1 < v.numRows ∧ r2 < v.numRows ∧ r1 ≠ r2) → a.rowPairMut m r1 r2 = .error .panic) := by
  have _ := hw
  obtain ⟨hok, hbad⟩ := Res.eq_ite_iff.1 (ha.rowPairMut_eq m r1 r2)
  exact ⟨fun hv => ⟨hok hv, h.rowWin_disjoint hv.2.2⟩, hbad⟩

/-- `TooDee::fill` -/
theorem C13_fill_owned (t : TD α) (h : t.Inv) (x : α) :
    t.fill x = t.asView.updCells t.data (fun _ => some x) ∧ t.fill x = List.replicate t.data.length x :=
  ⟨(h.updCells_eq _ (by rw [TD.fill, List.length_replicate, h.len]) _ fun c r hc hr => by
    rw [TD.fill, List.getElem?_replicate, if_pos (h.len ▸ rowMajor_cell_lt hc hr)]).symm, rfl⟩

/-- default `fill`: row by row -/
theorem C13_fill_default (v : VW) (buf : List α) (h : v.Inv buf.length) (a : Acc) (ha : a.Of v buf.length) (x : α) :
    a.fill buf x = .ok (v.updCells buf (fun _ => some x)) := by
  simp only [Acc.fill, ha.collect_rows, ok_bind, pure_eq]
  rw [List.foldl_map, ← pure_eq, ← List.foldlM_pure]
  refine VW.foldlM_range_updRows (fun _ => some x) _ fun D r hr => ?_
  rw [VW.Inv.fillWin_row (by rw [VW.updCells_length]; exact h) hr, VW.updCells_updCells]
  refine congrArg Except.ok (VW.updCells_congr _ _ _ _ fun c r' _ _ => ?_)
  by_cases hrr : r' = r
  · simp [hrr]
  · simp [hrr]

/-- what the trait defaults see of an owned array, and of a view: the hypothesis `ha` of every `Acc.*` theorem of C13–C17 -/
theorem C13_acc_owned (t : TD α) (h : t.Inv) : t.acc.Of t.asView t.data.length := Acc.Of.owned h

theorem C13_acc_view (m : Mode) (v : VW) (n : Nat) (h : v.Inv n) : ∃ a, v.acc m = .ok a ∧ a.Of v n := Acc.Of.view h m

/-- non-vacuity: what the trait defaults see of a 2x2 window (stride 3, offset 1) of an 8-cell buffer -/
example : VW.acc .debug ⟨⟨1, 5⟩, 2, 2, 3⟩ = .ok ⟨2, 2, ⟨⟨1, 5⟩, 2, 1⟩⟩ ∧
    (⟨2, 2, ⟨⟨1, 5⟩, 2, 1⟩⟩ : Acc).Of ⟨⟨1, 5⟩, 2, 2, 3⟩ 8 :=
  ⟨rfl, rfl, rfl, ⟨by decide, by decide, by decide, by decide, by decide⟩, rfl⟩
/-- non-vacuity: exchanging its two rows moves exactly cells 1,2 and 4,5 of the buffer — the call and the stated cell
    permutation evaluate to the same list — and the hypotheses of `C13_swap_rows_default` hold for it -/
example : (⟨2, 2, ⟨⟨1, 5⟩, 2, 1⟩⟩ : Acc).swapRows .debug [0, 1, 2, 3, 4, 5, 6, 7] 0 1 = .ok [0, 4, 5, 3, 1, 2, 6, 7] ∧
    gather [0, 1, 2, 3, 4, 5, 6, 7] ((⟨⟨1, 5⟩, 2, 2, 3⟩ : VW).mapCells (swapRowsG 0 1)) = [0, 4, 5, 3, 1, 2, 6, 7] :=
  ⟨by rfl, by rfl⟩
example : (⟨2, 2, ⟨⟨1, 5⟩, 2, 1⟩⟩ : Acc).swapRows .release [0, 1, 2, 3, 4, 5, 6, 7] 0 1 =
    .ok (gather [0, 1, 2, 3, 4, 5, 6, 7] ((⟨⟨1, 5⟩, 2, 2, 3⟩ : VW).mapCells (swapRowsG 0 1))) :=
  (C13_swap_rows_default .release ⟨⟨1, 5⟩, 2, 2, 3⟩ [0, 1, 2, 3, 4, 5, 6, 7]
    ⟨by decide, by decide, by decide, by decide, by decide, by decide⟩ _
    ⟨rfl, rfl, ⟨by decide, by decide, by decide, by decide, by decide⟩, rfl⟩ 0 1 (by decide)).1 (by decide)
/-- non-vacuity of `C13_swap_owned`: `swap` on a concrete 3x2 array, in range (evaluated) and out of range -/
example : TD.swap .debug (⟨[1, 2, 3, 4, 5, 6], 2, 3⟩ : TD Nat) 0 0 2 1 = .ok [6, 2, 3, 4, 5, 1] ∧
    TD.swap .release (⟨[1, 2, 3, 4, 5, 6], 2, 3⟩ : TD Nat) 0 0 3 1 = .error .panic := by
  refine ⟨?_, (C13_swap_owned .release _ ⟨rfl, by decide, by decide⟩ 0 0 3 1 (by decide)).2 (by decide)⟩
  rw [(C13_swap_owned .debug (⟨[1, 2, 3, 4, 5, 6], 2, 3⟩ : TD Nat) ⟨rfl, by decide, by decide⟩ 0 0 2 1 (by decide)).1
    (by decide)]
  rfl

end Toodee
