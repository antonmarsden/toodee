import Toodee.Properties.C02
import Toodee.Proofs.ViewLemmas
/-
  C02 (dispatch part) — every indexed access form on every receiver denotes the addressed cell.

  `Recv.indexCoord` / `indexCoordMut` / `indexRow` / `indexRowMut` / `getUnchecked` / `getUncheckedRow` / `col` (Impl/Recv.lean) are
  which accessor body runs for an owned array, a third-party wrapper, a mutable view and a shared view.  For a receiver reached
  by **any chain of borrowing steps** (`C03_borrow_chain` gives `Recv.Sound`), all of them agree on one position per coordinate,
  that position is a cell of the receiver, distinct coordinates give distinct positions, and out-of-range coordinates panic on
  every checked form.
-/
namespace Toodee
variable {α : Type}

/-- the dimensions and the position formula of a receiver -/
def Recv.pos : Recv α → Nat → Nat → Nat
  | .root t, c, r | .ext t, c, r => t.pos c r
  | .vmut v, c, r | .vsh v, c, r => v.pos c r

theorem Recv.shape_asVW (rc : Recv α) :
    rc.numCols = rc.asVW.numCols ∧ rc.numRows = rc.asVW.numRows ∧ ∀ c r, rc.pos c r = rc.asVW.pos c r := by
  cases rc with
  | root t | ext t => exact ⟨rfl, rfl, fun c r => (t.asView_pos c r).symm⟩
  | vmut v | vsh v => exact ⟨rfl, rfl, fun _ _ => rfl⟩

/-- `col` is missing here: `TD.col` is not `VW.col` at `asView` by unfolding (see `Recv.Sound.col_spec`) -/
theorem Recv.access_asVW (m : Mode) (rc : Recv α) :
    (∀ c r, rc.indexCoord m c r = rc.asVW.indexCoord m c r) ∧
    (∀ c r, rc.indexCoordMut m c r = rc.asVW.indexCoord m c r) ∧
    (∀ c r, rc.getUnchecked m c r = rc.asVW.getUnchecked m c r) ∧
    (∀ r, rc.indexRow m r = rc.asVW.indexRow m r) ∧
    (∀ r, rc.indexRowMut m r = rc.asVW.indexRow m r) ∧
    (∀ r, rc.getUncheckedRow m r = rc.asVW.getUncheckedRow m r) := by
  cases rc with
  | root t | ext t =>
    exact ⟨t.indexCoord_asView m, t.indexCoordMut_asView m, t.getUnchecked_asView m, t.indexRow_asView m,
      t.indexRowMut_asView m, t.getUncheckedRow_asView m⟩
  | vmut v | vsh v => exact ⟨fun _ _ => rfl, fun _ _ => rfl, fun _ _ => rfl, fun _ => rfl, fun _ => rfl, fun _ => rfl⟩

theorem Recv.Sound.col_spec {rc : Recv α} {n : Nat} (h : rc.Sound n) (m : Mode) (c : Nat) (hc : c < rc.numCols) :
    ∃ it, rc.col m c = .ok it ∧ it.WF rc.numRows n ∧ it.abs rc.numRows = (List.range rc.numRows).map fun r => rc.pos c r := by
  cases rc with
  | root t | ext t => exact h.2 ▸ h.1.col_spec m c hc
  | vmut v | vsh v => exact VW.Inv.col_spec h m c hc

theorem Recv.col_panic (m : Mode) (rc : Recv α) (c : Nat) (hc : rc.numCols ≤ c) : rc.col m c = .error .panic := by
  cases rc with
  | root t | ext t => exact TD.col_panic m t c hc
  | vmut v | vsh v => exact VW.col_panic m v c hc

/-- every receiver reached by borrowing (owned array, wrapper, mutable or shared view), valid coordinate: all seven access forms
    of the dispatch give the one position `rc.pos c r`, a cell of the receiver inside the root buffer -/
theorem C02_recv_valid (m : Mode) (n : Nat) (rc : Recv α) (h : rc.Sound n) (c r : Nat)
    (hc : c < rc.numCols) (hr : r < rc.numRows) :
    rc.pos c r < n ∧ rc.IsCell (rc.pos c r) ∧
    rc.indexCoord m c r = .ok (rc.pos c r) ∧
    rc.indexCoordMut m c r = .ok (rc.pos c r) ∧
    rc.getUnchecked m c r = .ok (rc.pos c r) ∧
    (rc.indexRow m r >>= fun w => w.index c) = .ok (rc.pos c r) ∧
    (rc.indexRowMut m r >>= fun w => w.index c) = .ok (rc.pos c r) ∧
    (rc.getUncheckedRow m r >>= fun w => w.index c) = .ok (rc.pos c r) ∧
    (rc.col m c >>= fun it => it.index m r) = .ok (rc.pos c r) := by
  obtain ⟨eC, eR, ePos⟩ := rc.shape_asVW
  obtain ⟨e1, e2, e3, e4, e5, e6⟩ := rc.access_asVW m
  have hv := h.asVW
  have hc' := eC ▸ hc
  have hr' := eR ▸ hr
  obtain ⟨p1, p2, p3, p4, p5, p6, _⟩ := C02_view_valid m rc.asVW n hv c r hc' hr'
  have hcol := (col_index_eq m (h.col_spec m) (rc.col_panic m) c r).trans (if_pos ⟨hc, hr⟩)
  -- after these rewrites the row forms read `.ok w >>= f`, which is `f w` by unfolding: `p6`
  rw [e1, e2, e3, e4, e5, e6, ePos, p4, p5]
  exact ⟨p1, h.isCell_of_asVW (by rw [hv.coord?_pos hc' hr']; rfl), p2, p2, p3, p6, p6, p6, ePos c r ▸ hcol⟩

/-- every such receiver, invalid coordinate: every checked access form of the dispatch panics -/
theorem C02_recv_invalid (m : Mode) (n : Nat) (rc : Recv α) (h : rc.Sound n) (c r : Nat)
    (hcw : c < WORD) (hrw : r < WORD) (hbad : ¬ (c < rc.numCols ∧ r < rc.numRows)) :
    rc.indexCoord m c r = .error .panic ∧
    rc.indexCoordMut m c r = .error .panic ∧
    (rc.indexRow m r >>= fun w => w.index c) = .error .panic ∧
    (rc.indexRowMut m r >>= fun w => w.index c) = .error .panic ∧
    (rc.col m c >>= fun it => it.index m r) = .error .panic := by
  obtain ⟨eC, eR, _⟩ := rc.shape_asVW
  obtain ⟨e1, e2, _, e4, e5, _⟩ := rc.access_asVW m
  obtain ⟨h1, h2, _⟩ := C02_view_invalid m rc.asVW n h.asVW c r hcw hrw (eC ▸ eR ▸ hbad)
  rw [e1, e2, e4, e5]
  exact ⟨h1, h1, h2, h2, (col_index_eq m (h.col_spec m) (rc.col_panic m) c r).trans (if_neg hbad)⟩

/-- every such receiver: distinct valid coordinates give distinct positions -/
theorem C02_recv_injective (n : Nat) (rc : Recv α) (h : rc.Sound n) (c1 r1 c2 r2 : Nat)
    (h1 : c1 < rc.numCols ∧ r1 < rc.numRows) (h2 : c2 < rc.numCols ∧ r2 < rc.numRows)
    (he : rc.pos c1 r1 = rc.pos c2 r2) : c1 = c2 ∧ r1 = r2 := by
  obtain ⟨eC, eR, ePos⟩ := rc.shape_asVW
  rw [ePos, ePos] at he
  rw [eC, eR] at h1 h2
  exact C02_pos_injective rc.asVW n h.asVW c1 r1 c2 r2 h1.1 h2.1 h1.2 h2.2 he

end Toodee
