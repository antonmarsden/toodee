import Toodee.Spec.Seq
import Toodee.Proofs.ListLemmas
/-
  The ideal double-ended sequence (Spec/Seq.lean) on lists alone, nothing of the model: `nth j` is `next` after dropping `j` items,
  `nth_back` is `nth` on the reversed list (used here only, to get the `nth_back` lemmas from the `nth` ones), how `nth`/`nth_back`
  go through `++` and `map`, and that they do not lengthen the list (users: IterLemmas, FlatLemmas); `Seq.pick` / `Seq.ends`: a run
  from both ends conserves the items and goes through `filterMap` (user: DrainLemmas).
-/
namespace Toodee
variable {β : Type}

theorem Seq.nth_eq_next_drop (l : List β) (j : Nat) : Seq.nth l j = Seq.next (l.drop j) := by
  rw [Seq.nth, Seq.next, List.head?_drop, List.tail_drop]

theorem Seq.nthBack_eq_nth_reverse (l : List β) (j : Nat) :
    Seq.nthBack l j = ((Seq.nth l.reverse j).1, (Seq.nth l.reverse j).2.reverse) := by
  rw [Seq.nthBack, Seq.nth, List.drop_reverse, List.reverse_reverse]
  split
  · rw [List.getElem?_reverse ‹_›]
  · rw [List.getElem?_eq_none (by rw [List.length_reverse]; exact Nat.le_of_not_lt ‹_›)]

theorem Seq.nthBack_eq_nextBack_take (l : List β) (j : Nat) :
    Seq.nthBack l j = Seq.nextBack (l.take (l.length - j)) := by
  rw [Seq.nthBack_eq_nth_reverse, Seq.nth_eq_next_drop, List.drop_reverse, Seq.next, Seq.nextBack, List.head?_reverse,
    List.tail_reverse, List.reverse_reverse]

theorem Seq.nthBack_map {α : Type} (f : α → β) (l : List α) (j : Nat) :
    Seq.nthBack (l.map f) j = ((Seq.nthBack l j).1.map f, (Seq.nthBack l j).2.map f) := by
  simp only [Seq.nthBack, List.length_map, List.getElem?_map, List.map_take]
  split <;> rfl

theorem Seq.next_eq_nth (l : List β) : Seq.next l = Seq.nth l 0 :=
  (Seq.nth_eq_next_drop l 0).symm

theorem Seq.nextBack_eq_nthBack (l : List β) : Seq.nextBack l = Seq.nthBack l 0 := by
  rw [Seq.nthBack_eq_nextBack_take, Nat.sub_zero, List.take_length]

theorem Seq.nth_append_left (X Y : List β) {j : Nat} (hj : j < X.length) :
    Seq.nth (X ++ Y) j = ((Seq.nth X j).1, (Seq.nth X j).2 ++ Y) := by
  simp only [Seq.nth, List.getElem?_append_left hj, List.drop_append_of_le_length (Nat.succ_le_of_lt hj)]

theorem Seq.nth_append_right (X Y : List β) {j : Nat} (hj : X.length ≤ j) :
    Seq.nth (X ++ Y) j = Seq.nth Y (j - X.length) := by
  simp only [Seq.nth, List.getElem?_append_right hj, List.drop_append, List.drop_eq_nil_of_le (Nat.le_succ_of_le hj),
    List.nil_append, Nat.succ_sub hj]

theorem Seq.nthBack_append_right (Y X : List β) {j : Nat} (hj : j < X.length) :
    Seq.nthBack (Y ++ X) j = ((Seq.nthBack X j).1, Y ++ (Seq.nthBack X j).2) := by
  rw [Seq.nthBack_eq_nth_reverse, List.reverse_append, Seq.nth_append_left _ _ (by rw [List.length_reverse]; exact hj),
    List.reverse_append, List.reverse_reverse, Seq.nthBack_eq_nth_reverse]

theorem Seq.nthBack_append_left (Y X : List β) {j : Nat} (hj : X.length ≤ j) :
    Seq.nthBack (Y ++ X) j = Seq.nthBack Y (j - X.length) := by
  rw [Seq.nthBack_eq_nth_reverse, List.reverse_append, Seq.nth_append_right _ _ (by rw [List.length_reverse]; exact hj),
    List.length_reverse, Seq.nthBack_eq_nth_reverse]

theorem Seq.nth_length_le (l : List β) (j : Nat) : (Seq.nth l j).2.length ≤ l.length := by
  simp only [Seq.nth, List.length_drop]; exact Nat.sub_le _ _

theorem Seq.nthBack_nil (j : Nat) : Seq.nthBack ([] : List β) j = (none, []) := by
  simp [Seq.nthBack]

theorem Seq.nthBack_length_le (l : List β) (j : Nat) : (Seq.nthBack l j).2.length ≤ l.length := by
  simp only [Seq.nthBack, List.length_take]; exact Nat.min_le_right _ _

/-- one step of `Seq.ends`: from the front if `b`, else from the back -/
def Seq.pick (b : Bool) (l : List β) : Option β × List β := if b then Seq.next l else Seq.nextBack l

theorem dr_ends_nil {ι : Type} (l : List ι) : Seq.ends l [] = ([], l) := rfl

theorem Seq.ends_cons (l : List β) (b : Bool) (w : List Bool) :
    Seq.ends l (b :: w) =
      ((Seq.pick b l).1.toList ++ (Seq.ends (Seq.pick b l).2 w).1, (Seq.ends (Seq.pick b l).2 w).2) := rfl

theorem Seq.pick_perm (b : Bool) (l : List β) : ((Seq.pick b l).1.toList ++ (Seq.pick b l).2).Perm l := by
  cases b
  · rcases List.eq_nil_or_concat l with rfl | ⟨xs, x, rfl⟩
    · simp [Seq.pick, Seq.nextBack]
    · simp only [Seq.pick, Seq.nextBack, List.concat_eq_append, List.getLast?_append, List.getLast?_singleton,
        Option.some_or, List.dropLast_concat]
      exact List.perm_append_comm
  · cases l <;> simp [Seq.pick, Seq.next]

/-- the ideal sequence conserves items along any word -/
theorem Seq.ends_perm (l : List β) (w : List Bool) : ((Seq.ends l w).1 ++ (Seq.ends l w).2).Perm l := by
  induction w generalizing l with
  | nil => exact List.Perm.refl l
  | cons b w ih =>
    rw [Seq.ends_cons, List.append_assoc]
    exact (List.Perm.append_left _ (ih _)).trans (Seq.pick_perm b l)

/-- what a step yields, and what it leaves, was there before -/
theorem Seq.pick_mem (b : Bool) (l : List β) :
    (∀ x, (Seq.pick b l).1 = some x → x ∈ l) ∧ ∀ x ∈ (Seq.pick b l).2, x ∈ l := by
  cases b
  · exact ⟨fun _ hx => List.mem_of_getLast? hx, fun _ hx => (List.dropLast_sublist l).subset hx⟩
  · exact ⟨fun _ hx => List.mem_of_head? hx, fun _ hx => List.mem_of_mem_tail hx⟩

theorem Seq.pick_filterMap {κ : Type} (f : β → Option κ) (b : Bool) (l : List β) (hf : ∀ x ∈ l, (f x).isSome) :
    Seq.pick b (l.filterMap f) = ((Seq.pick b l).1.bind f, (Seq.pick b l).2.filterMap f) := by
  cases b
  · rcases List.eq_nil_or_concat l with rfl | ⟨xs, x, rfl⟩
    · rfl
    · obtain ⟨y, hy⟩ := Option.isSome_iff_exists.1 (hf x (by simp))
      simp [Seq.pick, Seq.nextBack, List.filterMap_append, List.filterMap_cons_some hy, hy]
  · cases l with
    | nil => rfl
    | cons x xs =>
      obtain ⟨y, hy⟩ := Option.isSome_iff_exists.1 (hf x (by simp))
      simp [Seq.pick, Seq.next, List.filterMap_cons_some hy, hy]

theorem Seq.ends_filterMap {κ : Type} (f : β → Option κ) (w : List Bool) (l : List β) (hf : ∀ x ∈ l, (f x).isSome) :
    Seq.ends (l.filterMap f) w = ((Seq.ends l w).1.filterMap f, (Seq.ends l w).2.filterMap f) := by
  induction w generalizing l with
  | nil => rfl
  | cons b w ih =>
    rw [Seq.ends_cons, Seq.ends_cons, Seq.pick_filterMap f b l hf, ih _ fun x hx => hf x ((Seq.pick_mem b l).2 x hx),
      List.filterMap_append, toList_filterMap]

end Toodee
