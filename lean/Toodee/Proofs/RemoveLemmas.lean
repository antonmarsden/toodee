import Toodee.Proofs.MemLemmas
import Toodee.Proofs.GridLemmas
import Toodee.Proofs.IterLemmas
/-
  What `remove_row`, `remove_col` and the two drops compute.  The two removals as equations (`TD.Inv.removeRow_ok`, `TD.Inv.removeCol_ok`);
  the compaction of `DrainCol::drop`, followed on a buffer written as blocks `A ++ J ++ S ++ rows` so that each `ptr::copy` is one
  `memmoveChecked_left`; the drops as equations whose array is `TD.ofRows` of the rows that are left (`DrainCol.drop_ok`,
  `DrainRow.drop_of_removeRow`), with `TD.Inv.eraseRow` / `TD.Inv.eraseCol` saying what those arrays are (fields, invariant, grid);
  and that a column together with the rows without it holds the old cells (`TD.Inv.eraseCol_perm`).
-/
namespace Toodee
variable {α : Type}

/-- the complete row drain `remove_row` returns: the row, the cells before and after it, what the array shows while the drain is
    alive (`leakRows` / `leakCols`: the rows before `i`, as the wrapper around `Vec::drain` records them) and what it will show once
    the drain is dropped (`finalRows` / `finalCols`), all as the code computes them -/
theorem TD.Inv.removeRow_ok {t : TD α} (h : t.Inv) (m : Mode) {i : Nat} (hi : i < t.numRows) :
    t.removeRow m i = .ok
      { items := (t.data.drop (i * t.numCols)).take t.numCols,
        pre := t.data.take (i * t.numCols), tail := t.data.drop (i * t.numCols + t.numCols),
        leakRows := i, leakCols := if i = 0 then 0 else t.numCols,
        finalRows := t.numRows - 1, finalCols := if t.numRows - 1 = 0 then 0 else t.numCols } := by
  have hend : i * t.numCols + t.numCols ≤ t.data.length := h.len ▸ rowMajor_row_end_le hi
  have hw := Nat.lt_of_le_of_lt hend h.word
  have e1 : umul m i t.numCols = .ok (i * t.numCols) := umul_ok m (Nat.lt_of_le_of_lt (Nat.le_add_right _ _) hw)
  have e2 : usub m t.numRows 1 = .ok (t.numRows - 1) := usub_ok m (Nat.zero_lt_of_lt hi)
  have e3 : uadd m (i * t.numCols) t.numCols = .ok (i * t.numCols + t.numCols) := uadd_ok m hw
  unfold TD.removeRow
  rw [if_neg (Decidable.not_not.2 hi)]
  simp only [pure_eq, ok_bind, e1, e2, e3]
  rw [if_neg (Decidable.not_not.2 ⟨Nat.le_add_right _ _, hend⟩), Nat.add_sub_cancel_left]

/-- the complete column drain `remove_col` returns, including what the borrowed array shows meanwhile; its cursor is the one
    `col_mut(i)` returns (`TD.Inv.col_ok`), written as that lemma writes it: the Rust builds both from `skip: num_cols - 1` and the
    `len - num_cols + 1` cells from cell `index` on -/
theorem TD.Inv.removeCol_ok {t : TD α} (h : t.Inv) (m : Mode) {i : Nat} (hi : i < t.numCols) :
    t.removeCol m i = .ok
      { iter := ⟨⟨i, (t.numRows - 1) * t.numCols + 1⟩, t.numCols - 1⟩, col := i, numCols := t.numCols,
        numRows := t.numRows, buf := t.data, taken := [], tdLen := 0, tdCols := 0, tdRows := 0 } := by
  have hC : 0 < t.numCols := Nat.zero_lt_of_lt hi
  have hlen : t.data.length = (t.numRows - 1) * t.numCols + t.numCols := by
    rw [h.len, ← Nat.succ_mul, Nat.succ_eq_add_one, Nat.sub_add_cancel (h.rows_pos hi), Nat.mul_comm]
  have e1 : usub m t.data.length t.numCols = .ok ((t.numRows - 1) * t.numCols) := by
    rw [usub_ok m (hlen ▸ Nat.le_add_left _ _), hlen, Nat.add_sub_cancel]
  have e2 : uadd m ((t.numRows - 1) * t.numCols) 1 = .ok ((t.numRows - 1) * t.numCols + 1) :=
    uadd_ok m (Nat.lt_of_le_of_lt (hlen ▸ Nat.add_le_add_left hC _) h.word)
  have e3 : usub m t.numCols 1 = .ok (t.numCols - 1) := usub_ok m hC
  unfold TD.removeCol
  rw [if_neg (Decidable.not_not.2 hi)]
  simp only [pure_eq, ok_bind, e1, e2, e3]
  rw [if_neg (Decidable.not_not.2 (by rw [hlen, Nat.add_left_comm]; exact Nat.add_le_add_left hi _))]

/-- The compaction from the middle of the buffer on, for rows of `p + q + 1` cells that lose cell `p`.  `A`: what is compacted so
    far, up to the hole of the current row; `J`: the gap of stale cells (`dest` at its start, `src` at its end); `S`: the current
    row after its hole; then the rows to come.  One iteration moves `S` and the next row's cells before its hole left across the
    gap, and that hole joins the gap; the closing `ptr::copy` moves the last row's `S`.  `A` is general so that the induction goes
    through. -/
theorem compaction_from_hole {p q : Nat} (rest : List (List α)) (h : ∀ ρ ∈ rest, ρ.length = p + q + 1) (A J S : List α)
    (hS : S.length = q) :
    ∃ J' : List α,
      (compactLoop (p + q + 1) (p + q) rest.length (A ++ J ++ S ++ rest.flatten) (A.length + J.length) A.length
        >>= fun r => memmoveChecked r.1 r.2.1 r.2.2 q) = .ok (A ++ S ++ (rest.map fun ρ => ρ.eraseIdx p).flatten ++ J') := by
  induction rest generalizing A J S with
  | nil =>
    obtain ⟨J', _, hmm⟩ := memmoveChecked_left A J S []
    rw [hS] at hmm
    refine ⟨J', ?_⟩
    simp only [List.flatten_nil, List.map_nil, List.append_nil] at hmm ⊢
    exact hmm
  | cons ρ rest ih =>
    obtain ⟨P, H, Q, rfl, hP, hH, hQ, he⟩ := split_hole ρ (h ρ (by simp))
    obtain ⟨J1, hJ1, hmm⟩ := memmoveChecked_left A J (S ++ P) (H ++ Q ++ rest.flatten)
    obtain ⟨J', hfin⟩ := ih (fun ρ' hm => h ρ' (by simp [hm])) (A ++ (S ++ P)) (J1 ++ H) Q hQ
    have e1 : A ++ J ++ S ++ ((P ++ H ++ Q) :: rest).flatten = A ++ J ++ (S ++ P) ++ (H ++ Q ++ rest.flatten) := by
      simp only [List.flatten_cons, List.append_assoc]
    have e2 : A ++ (S ++ P) ++ J1 ++ (H ++ Q ++ rest.flatten) = A ++ (S ++ P) ++ (J1 ++ H) ++ Q ++ rest.flatten := by
      simp only [List.append_assoc]
    have e3 : (S ++ P).length = p + q := by rw [List.length_append, hS, hP, Nat.add_comm]
    have e4 : A.length + J.length + (p + q + 1) = (A ++ (S ++ P)).length + (J1 ++ H).length := by
      rw [List.length_append, List.length_append (as := J1), e3, hJ1, hH, Nat.add_add_add_comm]
    have e5 : A.length + (p + q) = (A ++ (S ++ P)).length := by rw [List.length_append, e3]
    refine ⟨J', ?_⟩
    rw [List.length_cons, compactLoop, e1, ← e3, hmm, ok_bind, e2, e3, e4, e5, hfin]
    simp only [List.map_cons, List.flatten_cons, he]
    simp only [List.append_assoc]

/-- The whole compaction on a buffer holding the rows `g` (at least one): the loop followed by the final `ptr::copy` leaves the
    rows without cell `p`, followed by stale cells. -/
theorem compaction_whole {p q : Nat} (g : List (List α)) (hg : ∀ ρ ∈ g, ρ.length = p + q + 1) (hne : g ≠ []) :
    ∃ J : List α,
      (compactLoop (p + q + 1) (p + q) (g.length - 1) g.flatten (p + 1) p >>= fun r => memmoveChecked r.1 r.2.1 r.2.2 q)
        = .ok ((g.map fun ρ => ρ.eraseIdx p).flatten ++ J) := by
  match g, hne with
  | ρ :: rest, _ =>
    obtain ⟨P, H, Q, rfl, hP, hH, hQ, he⟩ := split_hole ρ (hg ρ (by simp))
    obtain ⟨J, hfin⟩ := compaction_from_hole rest (fun ρ' hm => hg ρ' (by simp [hm])) P H Q hQ
    rw [hP, hH] at hfin
    refine ⟨J, ?_⟩
    rw [List.length_cons, Nat.add_sub_cancel, List.flatten_cons, hfin]
    simp only [List.map_cons, List.flatten_cons, he]

theorem readCell_ok (buf : List α) (p : Nat) (h : p < buf.length) : readCell buf p = .ok buf[p] := by
  simp [readCell, List.getElem?_eq_getElem h]

/-- `ptr::read` at positions that are all inside the buffer -/
theorem mapM_readCell_ok (buf : List α) (ps : List Nat) (h : ∀ p ∈ ps, p < buf.length) :
    ps.mapM (readCell buf) = .ok (ps.filterMap (buf[·]?)) := by
  induction ps with
  | nil => rfl
  | cons p ps ih =>
    have hp : p < buf.length := h p (by simp)
    rw [List.mapM_cons, readCell_ok buf p hp, ok_bind, ih fun q hq => h q (by simp [hq]), ok_bind,
      List.filterMap_cons_some (List.getElem?_eq_getElem hp)]
    rfl

/-- `DrainCol.drop_ok` below, for a buffer that holds any rows `g` of `C` cells (at least one row): with the width a variable it can
    be written `i + q + 1`, the shape `compaction_whole` speaks of, and the rows stay a list instead of `toRows` of the buffer.  At any
    stage of consumption: the cells the cursor still stands for are dropped, the array is `g` without column `i`. -/
theorem DrainCol.drop_ok_of_rows (m : Mode) (d : DrainCol α) {C i k : Nat} (g : List (List α)) (hg : ∀ ρ ∈ g, ρ.length = C)
    (hne : g ≠ []) (hi : i < C) (hb : d.buf = g.flatten) (hc : d.col = i) (hnc : d.numCols = C)
    (hnr : d.numRows = g.length) (hwf : d.iter.WF k d.buf.length) :
    d.drop m = .ok (TD.ofRows (C - 1) (g.map fun ρ => ρ.eraseIdx i), (d.iter.abs k).filterMap (d.buf[·]?)) := by
  -- write `C` as `i + q + 1`, the shape `compaction_whole` speaks of
  obtain ⟨q, rfl⟩ := Nat.exists_eq_add_of_lt hi
  obtain ⟨J, hcomp⟩ := compaction_whole g hg hne
  rw [← hb] at hcomp
  have hlen : d.buf.length = g.length * (i + q + 1) := by rw [hb, flatten_length_uniform _ g hg]
  have hX : ((g.map fun ρ => ρ.eraseIdx i).flatten).length = g.length * (i + q) := by
    rw [flatten_length_uniform _ _ (length_of_mem_map_eraseIdx hg hi), List.length_map, Nat.add_sub_cancel]
  have hword : g.length * (i + q) < WORD :=
    Nat.lt_of_le_of_lt (Nat.mul_le_mul_left _ (Nat.le_succ _)) (hlen ▸ hwf.word)
  have hnl : (i + q) * (if i + q = 0 then 0 else g.length) = g.length * (i + q) := by
    by_cases h0 : i + q = 0
    · rw [if_pos h0, h0, Nat.mul_zero, Nat.mul_zero]
    · rw [if_neg h0, Nat.mul_comm]
  have e1 : usub m (i + q + 1) 1 = .ok (i + q) := usub_ok m (Nat.le_add_left _ _)
  have e2 : usub m (i + q + 1) i = .ok (q + 1) := by
    rw [Nat.add_assoc, usub_ok m (Nat.le_add_right _ _), Nat.add_sub_cancel_left]
  have e3 : usub m (q + 1) 1 = .ok q := usub_ok m (Nat.le_add_left _ _)
  have e4 : umul m (i + q) (if i + q = 0 then 0 else g.length) = .ok (g.length * (i + q)) := by
    rw [umul_ok m (hnl ▸ hword), hnl]
  -- the array of the statement as `drop` computes it: there is a row, so only the row count depends on whether a column is left
  rw [TD.ofRows_of_rows_ne _ (mt List.map_eq_nil_iff.1 hne), List.length_map, Nat.add_sub_cancel]
  unfold DrainCol.drop
  rw [Col.collect_all hwf, ok_bind,
    mapM_readCell_ok d.buf _ hwf.abs_inside, ok_bind, hnc, hc, hnr]
  simp only [ok_bind, pure_eq, e1, e2, e3]
  -- with the two `usub`s between them computed, the loop and the closing copy are the one step `compaction_whole` describes:
  -- reassociate the binds (`bind_assoc` backwards) and rewrite that step
  refine ((bind_assoc _ _ _).symm.trans (congrArg (· >>= _) hcomp)).trans ?_
  simp only [ok_bind, e4]
  rw [if_neg (Decidable.not_not.2 (by rw [List.length_append, hX]; exact Nat.le_add_right _ _)), List.take_left' hX]

/-- `DrainCol::drop` on a drain of column `i` of `t`, at any stage of consumption: the array of the rows without cell `i`
    (`TD.Inv.eraseCol` says what that array is) -/
theorem DrainCol.drop_ok {t : TD α} (h : t.Inv) (m : Mode) {i : Nat} (hi : i < t.numCols)
    (d : DrainCol α) (hb : d.buf = t.data) (hc : d.col = i) (hnc : d.numCols = t.numCols) (hnr : d.numRows = t.numRows)
    (k : Nat) (hwf : d.iter.WF k t.data.length) :
    d.drop m = .ok (TD.ofRows (t.numCols - 1) (t.grid.map fun ρ => ρ.eraseIdx i), (d.iter.abs k).filterMap (t.data[·]?)) := by
  have hdrop := DrainCol.drop_ok_of_rows m d t.grid t.grid_row_length
    (List.ne_nil_of_length_pos (by rw [h.grid_length]; exact h.rows_pos hi)) hi (hb.trans h.data_eq_flatten_grid) hc hnc
    (hnr.trans h.grid_length.symm) (hb ▸ hwf)
  rwa [hb] at hdrop

/-- the array of the rows of `t` without cell `i`: one column fewer, and no rows either once the last column is gone -/
theorem TD.Inv.eraseCol {t : TD α} (h : t.Inv) {i : Nat} (hi : i < t.numCols) :
    TD.ofRows (t.numCols - 1) (t.grid.map fun ρ => ρ.eraseIdx i) =
        ⟨(t.grid.map fun ρ => ρ.eraseIdx i).flatten, if t.numCols = 1 then 0 else t.numRows, t.numCols - 1⟩ ∧
      (TD.ofRows (t.numCols - 1) (t.grid.map fun ρ => ρ.eraseIdx i)).Inv ∧
      (TD.ofRows (t.numCols - 1) (t.grid.map fun ρ => ρ.eraseIdx i)).grid =
        if t.numCols = 1 then [] else t.grid.map fun ρ => ρ.eraseIdx i := by
  have hrow := length_of_mem_map_eraseIdx t.grid_row_length hi
  have h1 : t.numCols - 1 = 0 ↔ t.numCols = 1 := by rw [Nat.sub_eq_iff_eq_add (Nat.zero_lt_of_lt hi), Nat.zero_add]
  refine ⟨?_, TD.ofRows_inv hrow
    (h.flatten_word hrow (by rw [List.length_map, h.grid_length]; exact Nat.le_refl _) (Nat.sub_le _ _)), ?_⟩
  · rw [TD.ofRows_of_rows_ne _ (mt List.map_eq_nil_iff.1 (List.ne_nil_of_length_pos (h.grid_length ▸ h.rows_pos hi))),
      List.length_map, h.grid_length]
    simp only [h1]
  · rw [TD.ofRows_grid hrow]
    simp only [h1]

/-- `remove_row(i)`, then the drain dropped with whatever `items'` it still holds: the array of the other rows
    (`TD.Inv.eraseRow` says what that array is) -/
theorem DrainRow.drop_of_removeRow {t : TD α} (h : t.Inv) (m : Mode) {i : Nat} (hi : i < t.numRows) {d : DrainRow α}
    (hd : t.removeRow m i = .ok d) (items' : List α) :
    ({ d with items := items' } : DrainRow α).drop = (TD.ofRows t.numCols (t.grid.eraseIdx i), items') := by
  rw [h.removeRow_ok m hi] at hd
  cases hd
  rw [TD.ofRows_of_cols_ne (Nat.ne_of_gt (h.cols_pos hi)), flatten_eraseIdx_uniform _ _ t.grid_row_length,
    ← h.data_eq_flatten_grid, Nat.succ_mul, List.length_eraseIdx_of_lt (by rw [h.grid_length]; exact hi), h.grid_length]
  rfl

/-- the array of the rows of `t` other than row `i`: one row fewer, and no columns either once the last row is gone -/
theorem TD.Inv.eraseRow {t : TD α} (h : t.Inv) {i : Nat} (hi : i < t.numRows) :
    TD.ofRows t.numCols (t.grid.eraseIdx i) =
        ⟨t.data.take (i * t.numCols) ++ t.data.drop ((i + 1) * t.numCols), t.numRows - 1,
          if t.numRows = 1 then 0 else t.numCols⟩ ∧
      (TD.ofRows t.numCols (t.grid.eraseIdx i)).Inv ∧ (TD.ofRows t.numCols (t.grid.eraseIdx i)).grid = t.grid.eraseIdx i := by
  have hC := Nat.ne_of_gt (h.cols_pos hi)
  have hrow : ∀ ρ ∈ t.grid.eraseIdx i, ρ.length = t.numCols := fun ρ hρ => t.grid_row_length ρ (List.mem_of_mem_eraseIdx hρ)
  have hlen : (t.grid.eraseIdx i).length = t.numRows - 1 := by
    rw [List.length_eraseIdx_of_lt (by rw [h.grid_length]; exact hi), h.grid_length]
  refine ⟨?_, TD.ofRows_inv hrow (h.flatten_word hrow (by rw [hlen]; exact Nat.sub_le _ _) (Nat.le_refl _)),
    TD.ofRows_grid_of_ne hrow hC⟩
  rw [TD.ofRows_of_cols_ne hC, flatten_eraseIdx_uniform _ _ t.grid_row_length, ← h.data_eq_flatten_grid, hlen]
  simp only [Nat.sub_eq_iff_eq_add (Nat.zero_lt_of_lt hi), Nat.zero_add]

/-- removing one column of an array conserves its cells: the rows with cell `i` erased, plus column `i` as read off the buffer -/
theorem TD.Inv.eraseCol_perm {t : TD α} (h : t.Inv) {i : Nat} (hi : i < t.numCols) :
    ((t.grid.map fun ρ => ρ.eraseIdx i).flatten ++ (List.range t.numRows).filterMap (fun r => t.data[t.pos i r]?)).Perm t.data := by
  -- column `i` read off the buffer is cell `i` of every row of the grid
  have hcol : (List.range t.numRows).filterMap (fun r => t.data[t.pos i r]?) = t.grid.filterMap (·[i]?) := by
    have hR : t.data.length / t.numCols = t.numRows := by
      rw [h.len]; exact Nat.mul_div_cancel_left _ (Nat.zero_lt_of_lt hi)
    unfold TD.grid toRows
    rw [List.filterMap_map, hR]
    apply filterMap_congr_mem
    intro r _
    simp only [Function.comp, TD.pos, List.getElem?_take, hi, if_true, List.getElem?_drop]
  rw [hcol, h.data_eq_flatten_grid]
  exact map_eraseIdx_flatten_perm i t.grid

end Toodee
