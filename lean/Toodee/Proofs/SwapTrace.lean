import Toodee.Proofs.CellsLemmas
/-
  Swap traces.  `build_swap_trace` (src/sort.rs:10-46) constructs in place a list of transpositions that realises a permutation: the
  invariant of its second loop lives on a ghost state `(P, Q, trace)` (`BInv`), and `SwapTrace.Holds` says how the one array represents that
  state (live entries `(P j, Q j)`, the dead prefix reused for the trace), with one lemma per array write.  Applying a trace — to a
  list (`applySwaps`), to the cells of a row, with `swap_rows` — is reading through its index map `traceMap`.
-/
namespace Toodee

/-- exchange entries `i` and `j` (nothing when one is out of range) -/
def swapAt {β : Type} (l : List β) (i j : Nat) : List β :=
  match l[i]?, l[j]? with
  | some a, some b => (l.set i b).set j a
  | _, _ => l

/-- apply transpositions to a list, left to right -/
def applySwaps {β : Type} (xs : List β) (trace : List (Nat × Nat)) : List β :=
  trace.foldl (fun l ij => match l[ij.1]?, l[ij.2]? with
    | some a, some b => (l.set ij.1 b).set ij.2 a
    | _, _ => l) xs

theorem applySwaps_cons {β : Type} (xs : List β) (t : Nat × Nat) (tr : List (Nat × Nat)) :
    applySwaps xs (t :: tr) = applySwaps (swapAt xs t.1 t.2) tr := rfl

/-- index map of a list of transpositions: `new[k] = old[traceMap trace k]` -/
def traceMap : List (Nat × Nat) → Nat → Nat
  | [], k => k
  | t :: rest, k => swapIdx t.1 t.2 (traceMap rest k)

theorem swapAt_length {β : Type} (l : List β) (i j : Nat) : (swapAt l i j).length = l.length := by
  unfold swapAt
  split <;> simp

theorem swapAt_getElem? {β : Type} (l : List β) {i j : Nat} (hi : i < l.length) (hj : j < l.length) (k : Nat) :
    (swapAt l i j)[k]? = l[swapIdx i j k]? := by
  unfold swapAt
  rw [List.getElem?_eq_getElem hi, List.getElem?_eq_getElem hj]
  show ((l.set i l[j]).set j l[i])[k]? = _
  by_cases h1 : k = j
  · subst h1
    rw [List.getElem?_set_self (by rw [List.length_set]; exact hj), swapIdx_right, List.getElem?_eq_getElem hi]
  · rw [List.getElem?_set_ne fun h => h1 h.symm]
    by_cases h2 : k = i
    · subst h2
      rw [List.getElem?_set_self hi, swapIdx_left, List.getElem?_eq_getElem hj]
    · rw [List.getElem?_set_ne fun h => h2 h.symm, swapIdx_of_ne h2 h1]

theorem traceMap_lt {n : Nat} (tr : List (Nat × Nat)) (hb : ∀ ij ∈ tr, ij.1 < n ∧ ij.2 < n) {k : Nat} (hk : k < n) :
    traceMap tr k < n := by
  induction tr with
  | nil => exact hk
  | cons t rest ih =>
    have ht := hb t (by simp)
    exact swapIdx_lt ht.1 ht.2 (ih (fun ij h => hb ij (by simp [h])))

theorem traceMap_append (tr : List (Nat × Nat)) (t : Nat × Nat) (k : Nat) :
    traceMap (tr ++ [t]) k = traceMap tr (swapIdx t.1 t.2 k) := by
  induction tr with
  | nil => rfl
  | cons s rest ih => simp only [List.cons_append, traceMap, ih]

theorem applySwaps_getElem? {β : Type} {n : Nat} (tr : List (Nat × Nat)) (hb : ∀ ij ∈ tr, ij.1 < n ∧ ij.2 < n)
    (xs : List β) (hx : xs.length = n) :
    (applySwaps xs tr).length = n ∧ ∀ k, (applySwaps xs tr)[k]? = xs[traceMap tr k]? := by
  induction tr generalizing xs with
  | nil => exact ⟨hx, fun _ => rfl⟩
  | cons t rest ih =>
    have ht := hb t (by simp)
    have hl : (swapAt xs t.1 t.2).length = n := by rw [swapAt_length, hx]
    obtain ⟨h1, h2⟩ := ih (fun ij h => hb ij (by simp [h])) (swapAt xs t.1 t.2) hl
    refine ⟨h1, fun k => ?_⟩
    rw [applySwaps_cons, h2 k, swapAt_getElem? xs (by rw [hx]; exact ht.1) (by rw [hx]; exact ht.2)]
    rfl

/-- The invariant of DESIGN.md Appendix A (`done` = I1, `todo` = I2, `inv` = I3 with the range of `Q`, `bounds` = what was emitted)
    at the head of iteration `i`; `pf j` = the original index that slot `j` must end up holding.  `P j` is the position that currently
    holds what slot `j` wants, `Q = P⁻¹` on `[i, n)`, and `traceMap tr k` is the original index now sitting at `k` (the arrangement
    reached by the swaps emitted so far) -/
structure BInv (pf : Nat → Nat) (n i : Nat) (P Q : Nat → Nat) (tr : List (Nat × Nat)) : Prop where
  done : ∀ j, j < i → traceMap tr j = pf j
  todo : ∀ j, i ≤ j → j < n → traceMap tr (P j) = pf j ∧ i ≤ P j ∧ P j < n
  inv : ∀ j, i ≤ j → j < n → Q (P j) = j ∧ P (Q j) = j ∧ i ≤ Q j ∧ Q j < n
  bounds : ∀ ij ∈ tr, ij.1 < ij.2 ∧ ij.2 < n

/-- the form of `BInv.bounds` as `traceMap_lt`, `applySwaps_getElem?` and the cell lemmas take it -/
theorem SwapTrace.bounds_lt {n : Nat} {tr : List (Nat × Nat)} (hb : ∀ ij ∈ tr, ij.1 < ij.2 ∧ ij.2 < n) : ∀ ij ∈ tr, ij.1 < n ∧ ij.2 < n :=
  fun ij h => ⟨Nat.lt_trans (hb ij h).1 (hb ij h).2, (hb ij h).2⟩

section
variable {pf : Nat → Nat} {n i : Nat} {P Q : Nat → Nat} {tr : List (Nat × Nat)}

/-- `P` and `Q` are inverse to each other on the live slots, hence injective there -/
theorem BInv.ne_of_lt (H : BInv pf n i P Q tr) (hi : i < n) {j : Nat} (hj : i < j) (hjn : j < n) : P j ≠ P i ∧ Q j ≠ Q i := by
  obtain ⟨i1, i2, _, _⟩ := H.inv j (Nat.le_of_lt hj) hjn
  obtain ⟨ii1, ii2, _, _⟩ := H.inv i (Nat.le_refl i) hi
  exact ⟨fun e => Nat.ne_of_gt hj (i1.symm.trans ((congrArg Q e).trans ii1)),
    fun e => Nat.ne_of_gt hj (i2.symm.trans ((congrArg P e).trans ii2))⟩

/-- slot `i` already holds its element: nothing to do -/
theorem BInv.step_eq (H : BInv pf n i P Q tr) (hi : i < n) (he : P i = i) : BInv pf n (i + 1) P Q tr := by
  obtain ⟨ti, _, _⟩ := H.todo i (Nat.le_refl i) hi
  rw [he] at ti
  refine ⟨fun j hj => ?_, fun j hj hjn => ?_, fun j hj hjn => ?_, H.bounds⟩
  · rcases Nat.lt_succ_iff_lt_or_eq.1 hj with h | rfl
    · exact H.done j h
    · exact ti
  · have hj' := Nat.le_of_succ_le hj
    obtain ⟨t1, t2, t3⟩ := H.todo j hj' hjn
    exact ⟨t1, Nat.lt_of_le_of_ne t2 fun e => (H.ne_of_lt hi hj hjn).1 (e.symm.trans he.symm), t3⟩
  · have hj' := Nat.le_of_succ_le hj
    obtain ⟨i1, i2, i3, i4⟩ := H.inv j hj' hjn
    exact ⟨i1, i2, Nat.lt_of_le_of_ne i3 fun e => Nat.ne_of_gt hj (i2.symm.trans ((congrArg P e.symm).trans he)), i4⟩

/-- what the guard `inv_i > i` and the unchecked indices need when `P i ≠ i` -/
theorem BInv.ne_facts (H : BInv pf n i P Q tr) (hi : i < n) (hne : P i ≠ i) :
    i < P i ∧ P i < n ∧ i < Q i ∧ Q i < n := by
  obtain ⟨_, h2, h3⟩ := H.todo i (Nat.le_refl i) hi
  obtain ⟨_, k2, k3, k4⟩ := H.inv i (Nat.le_refl i) hi
  exact ⟨Nat.lt_of_le_of_ne h2 (Ne.symm hne), h3, Nat.lt_of_le_of_ne k3 fun e => hne ((congrArg P e).trans k2), k4⟩

/-- slot `i` wants what sits at `P i ≠ i`: emit `(i, P i)` and redirect the slot that wanted what sat at `i` -/
theorem BInv.step_ne (H : BInv pf n i P Q tr) (hi : i < n) (hne : P i ≠ i) :
    BInv pf n (i + 1) (fun j => if j = Q i then P i else P j) (fun k => if k = P i then Q i else Q k)
      (tr ++ [(i, P i)]) := by
  obtain ⟨ho1, ho2, hq1, hq2⟩ := H.ne_facts hi hne
  obtain ⟨ti, _, _⟩ := H.todo i (Nat.le_refl i) hi
  obtain ⟨_, ii2, _, _⟩ := H.inv i (Nat.le_refl i) hi
  refine ⟨fun j hj => ?_, fun j hj hjn => ?_, fun j hj hjn => ?_, fun ij hij => ?_⟩
  · rw [traceMap_append]
    rcases Nat.lt_succ_iff_lt_or_eq.1 hj with h | rfl
    · rw [swapIdx_of_ne (Nat.ne_of_lt h) (Nat.ne_of_lt (Nat.lt_trans h ho1))]
      exact H.done j h
    · rw [swapIdx_left]
      exact ti
  · have hj' := Nat.le_of_succ_le hj
    obtain ⟨t1, t2, t3⟩ := H.todo j hj' hjn
    obtain ⟨i1, _, _, _⟩ := H.inv j hj' hjn
    rw [traceMap_append]
    dsimp only
    by_cases h : j = Q i
    · subst h
      rw [if_pos rfl, swapIdx_right]
      rw [ii2] at t1
      exact ⟨t1, ho1, ho2⟩
    · have n1 : P j ≠ i := fun e => h (i1.symm.trans (congrArg Q e))
      rw [if_neg h, swapIdx_of_ne n1 (H.ne_of_lt hi hj hjn).1]
      exact ⟨t1, Nat.lt_of_le_of_ne t2 (Ne.symm n1), t3⟩
  · have hj' := Nat.le_of_succ_le hj
    obtain ⟨i1, i2, i3, i4⟩ := H.inv j hj' hjn
    refine ⟨?_, ?_, ?_⟩
    · by_cases h : j = Q i
      · rw [if_pos h, if_pos rfl, h]
      · rw [if_neg h, if_neg (H.ne_of_lt hi hj hjn).1]
        exact i1
    · by_cases h : j = P i
      · rw [if_pos h, if_pos rfl, h]
      · rw [if_neg h, if_neg (H.ne_of_lt hi hj hjn).2]
        exact i2
    · by_cases h : j = P i
      · rw [if_pos h]
        exact ⟨hq1, hq2⟩
      · rw [if_neg h]
        exact ⟨Nat.lt_of_le_of_ne i3 fun e => h (i2.symm.trans (congrArg P e.symm)), i4⟩
  · rcases List.mem_append.1 hij with h | h
    · exact H.bounds ij h
    · rw [List.mem_singleton.1 h]
      exact ⟨ho1, ho2⟩

end

/-- The array at the head of iteration `i` of the second loop: the entries from `i` on hold `(P j, Q j)`; the dead prefix has been
    reused for the `sc ≤ i` transpositions emitted so far. -/
structure SwapTrace.Holds (ord : Array (Nat × Nat)) (n sc i : Nat) (P Q : Nat → Nat) (tr : List (Nat × Nat)) : Prop where
  size : ord.size = n
  le : sc ≤ i
  len : tr.length = sc
  trace : ∀ m, m < sc → ord[m]? = tr[m]?
  live : ∀ j, i ≤ j → j < n → ord[j]? = some (P j, Q j)

section
variable {ord : Array (Nat × Nat)} {n sc i : Nat} {P Q : Nat → Nat} {tr : List (Nat × Nat)}

theorem SwapTrace.Holds.get (H : SwapTrace.Holds ord n sc i P Q tr) {j : Nat} (hj : i ≤ j) (h : j < ord.size) : ord[j] = (P j, Q j) := by
  have := H.live j hj (H.size ▸ h)
  rw [Array.getElem?_eq_getElem h] at this
  exact Option.some.inj this

theorem SwapTrace.Holds.next (H : SwapTrace.Holds ord n sc i P Q tr) : SwapTrace.Holds ord n sc (i + 1) P Q tr :=
  ⟨H.size, Nat.le_succ_of_le H.le, H.len, H.trace, fun j hj => H.live j (Nat.le_of_succ_le hj)⟩

theorem SwapTrace.Holds.take (H : SwapTrace.Holds ord n sc i P Q tr) : ord.toList.take sc = tr := by
  apply List.ext_getElem?
  intro m
  rw [List.getElem?_take]
  by_cases h : m < sc
  · rw [if_pos h, Array.getElem?_toList, H.trace m h]
  · rw [if_neg h, List.getElem?_eq_none (by rw [H.len]; omega)]

/-- `ordering[swap_count] = (i, other)`: entry `sc ≤ i` is not read again -/
theorem SwapTrace.Holds.emit (H : SwapTrace.Holds ord n sc i P Q tr) (t : Nat × Nat) (h : sc < ord.size) :
    SwapTrace.Holds (ord.set sc t h) n (sc + 1) (i + 1) P Q (tr ++ [t]) := by
  have hle := H.le
  refine ⟨by rw [Array.size_set, H.size], Nat.succ_le_succ hle, by rw [List.length_append, H.len]; rfl,
    fun m hm => ?_, fun j hj hjn => ?_⟩
  · rw [Array.getElem?_set]
    by_cases e : sc = m
    · rw [if_pos e, ← e, ← H.len, List.getElem?_concat_length]
    · have hm' : m < sc := Nat.lt_of_le_of_ne (Nat.le_of_lt_succ hm) (Ne.symm e)
      rw [if_neg e, List.getElem?_append_left (by rw [H.len]; exact hm')]
      exact H.trace m hm'
  · rw [Array.getElem?_set, if_neg (Nat.ne_of_lt (Nat.lt_of_le_of_lt hle hj))]
    exact H.live j (Nat.le_of_succ_le hj) hjn

/-- one write to a live entry `q`: the ghost functions change at `q` only -/
theorem SwapTrace.Holds.set_live (H : SwapTrace.Holds ord n sc i P Q tr) {q : Nat} (hq : i ≤ q) (h : q < ord.size) {v : Nat × Nat}
    {P' Q' : Nat → Nat} (hv : v = (P' q, Q' q)) (hrest : ∀ j, j ≠ q → P' j = P j ∧ Q' j = Q j) :
    SwapTrace.Holds (ord.set q v h) n sc i P' Q' tr := by
  have hle := H.le
  refine ⟨by rw [Array.size_set, H.size], hle, H.len, fun m hm => ?_, fun j hj hjn => ?_⟩
  · rw [Array.getElem?_set, if_neg (Nat.ne_of_gt (Nat.lt_of_lt_of_le hm (Nat.le_trans hle hq)))]
    exact H.trace m hm
  · rw [Array.getElem?_set]
    by_cases e : q = j
    · rw [if_pos e, hv, e]
    · rw [if_neg e, (hrest j fun h => e h.symm).1, (hrest j fun h => e h.symm).2]
      exact H.live j hj hjn

/-- `ordering[q].0 = o` on a live entry -/
theorem SwapTrace.Holds.setP (H : SwapTrace.Holds ord n sc i P Q tr) (o : Nat) {q : Nat} (hq : i ≤ q) (h : q < ord.size) :
    SwapTrace.Holds (ord.set q (o, ord[q].2) h) n sc i (fun j => if j = q then o else P j) Q tr :=
  H.set_live hq h (by rw [H.get hq h, if_pos rfl]) fun _ hj => ⟨if_neg hj, rfl⟩

/-- `ordering[o].1 = q` on a live entry -/
theorem SwapTrace.Holds.setQ (H : SwapTrace.Holds ord n sc i P Q tr) (q : Nat) {o : Nat} (ho : i ≤ o) (h : o < ord.size) :
    SwapTrace.Holds (ord.set o (ord[o].1, q) h) n sc i P (fun k => if k = o then q else Q k) tr :=
  H.set_live ho h (by rw [H.get ho h, if_pos rfl]) fun _ hj => ⟨rfl, if_neg hj⟩

end

/-- the first loop: afterwards `Q ∘ pf = id`, i.e. entry `pf j` has `.2 = j` -/
theorem bstInverse_spec (pf : Nat → Nat) (n : Nat) (hlt : ∀ j, j < n → pf j < n)
    (hinj : ∀ j k, j < n → k < n → pf j = pf k → j = k) :
    ∀ (k idx : Nat) (ord : Array (Nat × Nat)) (Q : Nat → Nat), idx + k = n → SwapTrace.Holds ord n 0 0 pf Q [] →
      (∀ j, j < idx → Q (pf j) = j) →
      ∃ ord' Q', bstInverse ord k idx = .ok ord' ∧ SwapTrace.Holds ord' n 0 0 pf Q' [] ∧ ∀ j, j < n → Q' (pf j) = j := by
  intro k
  induction k with
  | zero =>
    intro idx ord Q hk H hQ
    obtain rfl : idx = n := hk
    exact ⟨ord, Q, bstInverse.eq_1 ord _, H, hQ⟩
  | succ k ih =>
    intro idx ord Q hk H hQ
    have hk' : idx + 1 + k = n := by omega
    have hin : idx < n := by omega
    have hidx : idx < ord.size := by rw [H.size]; exact hin
    have hv : pf idx < ord.size := by rw [H.size]; exact hlt idx hin
    rw [bstInverse, dif_pos hidx, H.get (Nat.zero_le _) hidx]
    dsimp only
    rw [dif_pos hv]
    refine ih (idx + 1) _ _ hk' (H.setQ idx (Nat.zero_le _) hv) fun j hj => ?_
    by_cases e : j = idx
    · rw [e, if_pos rfl]
    · rw [if_neg (fun h => e (hinj j idx (Nat.lt_of_lt_of_le hj hin) hin h))]
      exact hQ j (Nat.lt_of_le_of_ne (Nat.le_of_lt_succ hj) e)

/-- the second loop establishes the invariant at `n`, and its array part is in range throughout (no `ub`).  `P'`, `Q'` stay
    existential: of the final invariant only `done` (at `i = n`: every slot) and `bounds` are used. -/
theorem bstTrace_spec (pf : Nat → Nat) (n : Nat) :
    ∀ (k i : Nat) (ord : Array (Nat × Nat)) (sc : Nat) (P Q : Nat → Nat) (tr : List (Nat × Nat)),
      i + k = n → SwapTrace.Holds ord n sc i P Q tr → BInv pf n i P Q tr →
      ∃ ord' sc' P' Q', bstTrace ord sc k i = .ok (ord', sc') ∧ sc' ≤ ord'.size ∧
        BInv pf n n P' Q' (ord'.toList.take sc') := by
  intro k
  induction k with
  | zero =>
    intro i ord sc P Q tr hk H B
    obtain rfl : i = n := hk
    refine ⟨ord, sc, P, Q, bstTrace.eq_1 ord sc _, by rw [H.size]; exact H.le, ?_⟩
    rw [H.take]
    exact B
  | succ k ih =>
    intro i ord sc P Q tr hk H B
    have hk' : i + 1 + k = n := by omega
    have hin : i < n := by omega
    have hi : i < ord.size := by rw [H.size]; exact hin
    rw [bstTrace, dif_pos hi, H.get (Nat.le_refl i) hi]
    dsimp only
    by_cases he : i = P i
    · rw [if_neg (fun h : i ≠ P i => h he)]
      exact ih (i + 1) ord sc P Q tr hk' H.next (B.step_eq hin he.symm)
    · have hne : P i ≠ i := fun h => he h.symm
      obtain ⟨ho1, ho2, hq1, hq2⟩ := B.ne_facts hin hne
      have hsc : sc < ord.size := Nat.lt_of_le_of_lt H.le hi
      have H1 := H.emit (i, P i) hsc
      have g2 : Q i < (ord.set sc (i, P i) hsc).size := by rw [H1.size]; exact hq2
      have H2 := H1.setP (P i) hq1 g2
      have g3 : P i < ((ord.set sc (i, P i) hsc).set (Q i) (P i, ((ord.set sc (i, P i) hsc)[Q i]'g2).2) g2).size := by
        rw [H2.size]; exact ho2
      -- `if_pos hq1`: when `i ≠ other` the invariant gives `inv_i > i`, so the `else` of that test (src/sort.rs:36) is never taken
      rw [if_pos he, dif_pos hsc, if_pos hq1, dif_pos g2, dif_pos g3]
      exact ih (i + 1) _ (sc + 1) _ _ (tr ++ [(i, P i)]) hk' (H2.setQ (Q i) ho1 g3) (B.step_ne hin hne)

/-- `build_swap_trace` on a permutation `p` of `0..n`: no `ub`, transpositions `(i,j)` with `i < j < n`, whose index map is
    `k ↦ p[k]` -/
theorem buildSwapTrace_spec {p : List Nat} {n : Nat} (hp : p.Perm (List.range n)) :
    ∃ tr, buildSwapTrace p = .ok tr ∧ (∀ ij ∈ tr, ij.1 < ij.2 ∧ ij.2 < n) ∧
      ∀ k d, k < n → traceMap tr k = p.getD k d := by
  obtain rfl : p.length = n := by rw [hp.length_eq, List.length_range]
  have hs0 : (p.map fun v => (v, 0)).toArray.size = p.length := by simp
  -- the second components start as `0` here; in the Rust they start as the reinterpreted `&T` of `sorted_box_to_ordering`
  -- (src/sort.rs:50-58).  Nothing depends on them: `bstInverse_spec` holds for any initial `Q` and overwrites every entry.
  have H0 : SwapTrace.Holds (p.map fun v => (v, 0)).toArray p.length 0 0 (fun j => p.getD j 0) (fun _ => 0) [] :=
    ⟨hs0, Nat.le_refl 0, rfl, fun m hm => absurd hm (Nat.not_lt_zero m), fun j _ hj => by
      simp [List.getD_eq_getElem?_getD, hj]⟩
  obtain ⟨ord1, Q, e1, H1, hQ⟩ := bstInverse_spec _ p.length (fun j => perm_range_getD_lt hp j 0)
    (fun j k => perm_range_getD_inj hp 0 0) p.length 0 _ _ (Nat.zero_add _) H0 (fun j hj => absurd hj (Nat.not_lt_zero j))
  have B : BInv (fun j => p.getD j 0) p.length 0 (fun j => p.getD j 0) Q [] := by
    refine ⟨fun j hj => absurd hj (Nat.not_lt_zero j), fun j _ hj => ⟨rfl, Nat.zero_le _, perm_range_getD_lt hp j 0 hj⟩,
      fun j _ hj => ?_, fun ij h => nomatch h⟩
    obtain ⟨k, hk, hkj⟩ := perm_range_exists_getD hp j 0 hj
    refine ⟨hQ j hj, ?_, Nat.zero_le _, ?_⟩
    · rw [← hkj, hQ k hk]
    · rw [← hkj, hQ k hk]; exact hk
  obtain ⟨ord2, sc, P', Q', e2, hsc, B'⟩ := bstTrace_spec _ p.length p.length 0 ord1 0 _ Q [] (Nat.zero_add _) H1 B
  refine ⟨ord2.toList.take sc, ?_, B'.bounds, fun k d hk => by
    rw [B'.done k hk]; simp [List.getD_eq_getElem?_getD, hk]⟩
  unfold buildSwapTrace
  dsimp only
  rw [hs0, e1]
  simp only [ok_bind]
  rw [e2]
  simp only [ok_bind, if_pos hsc, pure_eq]

/-- composing the swaps of a trace, lifted to the cells of row `ρ`, is the lift of `traceMap` -/
theorem compCells_onRow_swaps (ρ : Nat) (tr : List (Nat × Nat)) (cr : Nat × Nat) :
    compCells (tr.map fun ij => onRow ρ (swapIdx ij.1 ij.2)) cr = onRow ρ (traceMap tr) cr := by
  induction tr with
  | nil => simp [compCells, traceMap, onRow]
  | cons t rest ih =>
    simp only [List.map_cons, compCells, ih, onRow]
    by_cases h : cr.2 = ρ
    · simp [h, traceMap]
    · simp [h]

/-- … and of whole-row swaps: the same fact for the lift `f ↦ fun cr => (cr.1, f cr.2)` -/
theorem compCells_swap_rows (tr : List (Nat × Nat)) (cr : Nat × Nat) :
    compCells (tr.map fun ij => swapRowsG ij.1 ij.2) cr = (cr.1, traceMap tr cr.2) := by
  induction tr with
  | nil => rfl
  | cons t rest ih => simp only [List.map_cons, compCells, ih, traceMap, swapRowsG]

/-- the swap loop over one row: the cells of that row are read through `traceMap` -/
theorem VW.Inv.applyTraceRow_ok {α : Type} {v : VW} {n : Nat} (h : v.Inv n) {ρ : Nat} (hρ : ρ < v.numRows) (tr : List (Nat × Nat))
    (hb : ∀ ij ∈ tr, ij.1 < v.numCols ∧ ij.2 < v.numCols) (b : List α) (hl : b.length = n) :
    applyTraceRow b (v.rowWin ρ) tr = .ok (gather b (v.mapCells (onRow ρ (traceMap tr)))) := by
  unfold applyTraceRow
  refine h.foldlM_gather_mapCells _ (fun ij => onRow ρ (swapIdx ij.1 ij.2)) tr ?_ ?_ b hl _
    fun c r _ _ => compCells_onRow_swaps ρ tr (c, r)
  · intro ij hij
    exact onRow_cellMap ρ fun c hc => swapIdx_lt (hb ij hij).1 (hb ij hij).2 hc
  · intro ij hij b' _
    have := hb ij hij
    rw [Win.getIdx_ok (w := v.rowWin ρ) this.1, ok_bind, Win.getIdx_ok (w := v.rowWin ρ) this.2, ok_bind]
    show Except.ok (gather b' (swapPosMap (v.pos 0 ρ + ij.1) (v.pos 0 ρ + ij.2))) = _
    rw [VW.pos_zero_add, VW.pos_zero_add]
    exact congrArg Except.ok (gather_congr b' _ _ fun p _ => h.swapPosMap_eq_mapCells_onRow this.1 this.2 hρ p)

end Toodee
