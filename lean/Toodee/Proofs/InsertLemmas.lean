import Toodee.Proofs.MemLemmas
import Toodee.Proofs.GridLemmas
/-
  `insert_row` and `insert_col` (Impl/Insert.lean) for every iterator script, capacity and build mode.

  For users (C06, C11, C01, C05, HistoryLemmas):
  * `TD.Inv.insertRow_script`, `TD.Inv.insertCol_script`: the complete outcome of an accepted call, for the two shapes a script can
    have (`script_split`): an item for every cell, then anything (the call ends as `rowEnd` / `colEnd` say), or fewer items and
    then the end of the script or a panic.  `TD.Inv.insertRow_honest`, `TD.Inv.insertCol_honest`: their instances for `honest xs`.
    Successful results are `TD.ofRows` of the rows `t.grid.insertIdx i ys`, resp. `zipWith (insAt i) (t.rowsForCol N) xs`;
    `TD.Inv.grid_insertIdx`, `TD.Inv.rowsForCol_insAt` say what these rows are (equal lengths, their cells).
  * `TD.insertRow_reject`, `TD.insertCol_reject` (any of the three guards fails: panic, array untouched), `_over_cap` (the
    capacity guard), `guards_bounds` (what passing them gives).
  * `itemsOf` (the items of an event list), `insert_outcome_safe` (an outcome judged by where cells and items went: C11).

  How it is proved (invariants of DESIGN.md Appendix A): one lemma per operation says where it stands after a run of items,
  with the rest of its loop and of the script still to come (`fillLoop_items`, `insertColCrit_rows`); what happens next depends
  only on whether the loop or the items ran out first.  For `insert_col` the move and write before the loop are one more
  iteration of that loop, run with the `C - i` cells behind column `i` for a row (`insertColCrit_eq_critLoop`), so one step
  lemma (`insColLoop_step`) serves the whole critical section (`insertColCrit_full`, `_short`); `TD.insertCol_accepted` is the
  call around it.
-/
namespace Toodee
variable {α : Type}

/-! ### Scripts -/

/-- the items an event list still holds -/
def itemsOf (ev : List (Option α)) : List α := ev.filterMap id

theorem itemsOf_append (a b : List (Option α)) : itemsOf (a ++ b) = itemsOf a ++ itemsOf b := List.filterMap_append

theorem itemsOf_reverse (ev : List (Option α)) : itemsOf ev.reverse = (itemsOf ev).reverse := List.filterMap_reverse

theorem itemsOf_map_some (ys : List α) : itemsOf (ys.map some) = ys := by
  rw [itemsOf, List.filterMap_map]
  exact List.filterMap_some

theorem debugExhausted_nil (m : Mode) : debugExhausted m ([] : List (Option α)) = ([], none, []) := by
  cases m <;> rfl

/-- `debug_assert!(iter.next().is_none())`: nothing happens (release build, or nothing left), or it pulls a panic, or it pulls
    and drops an item -/
theorem debugExhausted_cases (m : Mode) (rem : List (Option α)) :
    debugExhausted m rem = (rem, none, []) ∨
    (∃ ev, rem = none :: ev ∧ debugExhausted m rem = (ev, some .panic, [])) ∨
    (∃ x ev, rem = some x :: ev ∧ debugExhausted m rem = (ev, some .panic, [x])) := by
  cases m with
  | release => exact .inl rfl
  | debug =>
    match rem with
    | [] => exact .inl rfl
    | none :: ev => exact .inr (.inl ⟨ev, rfl, rfl⟩)
    | some x :: ev => exact .inr (.inr ⟨x, ev, rfl, rfl⟩)

/-- the script stops here: it is exhausted, or the caller's `next()` panics -/
def Stops (ev : List (Option α)) : Prop := ev = [] ∨ ∃ tl, ev = none :: tl

/-- a loop that pulls up to `n` items gets them all from the script `ev`, or only fewer because the script then stops -/
theorem script_split : ∀ (n : Nat) (ev : List (Option α)),
    (∃ (ys : List α) (rem : List (Option α)), ys.length = n ∧ ev = ys.map some ++ rem) ∨
    (∃ (ys : List α) (tail : List (Option α)), ys.length < n ∧ ev = ys.map some ++ tail ∧ Stops tail)
  | 0, ev => .inl ⟨[], ev, rfl, rfl⟩
  | n + 1, [] => .inr ⟨[], [], Nat.succ_pos n, rfl, .inl rfl⟩
  | n + 1, none :: ev => .inr ⟨[], none :: ev, Nat.succ_pos n, rfl, .inr ⟨ev, rfl⟩⟩
  | n + 1, some y :: ev => by
    rcases script_split n ev with ⟨ys, rem, h1, h2⟩ | ⟨ys, tail, h1, h2, h3⟩
    · exact .inl ⟨y :: ys, rem, congrArg (· + 1) h1, congrArg (some y :: ·) h2⟩
    · exact .inr ⟨y :: ys, tail, Nat.succ_lt_succ h1, congrArg (some y :: ·) h2, h3⟩

theorem IterScript.eq_honest (it : IterScript α) (hall : it.events.all Option.isSome = true)
    (hcl : it.claimed = (itemsOf it.events).length) : it = honest (itemsOf it.events) := by
  obtain ⟨claimed, events⟩ := it
  simp only at hall hcl
  unfold honest itemsOf at *
  rw [← all_isSome_eq_map events hall, ← hcl]

theorem IterScript.exists_honest (it : IterScript α) (hon : it.events.all Option.isSome ∧ it.claimed = it.events.length) :
    ∃ xs, it = honest xs := by
  refine ⟨_, it.eq_honest hon.1 ?_⟩
  rw [hon.2, itemsOf]
  conv => lhs; rw [all_isSome_eq_map it.events hon.1, List.length_map]

/-- what the plain model asks of a script before it prescribes a result `B` for its items `xs` -/
theorem IterScript.honest_of_guard {β : Type} {it : IterScript α} {xs : List α} {B : Option β} {y : β}
    (hxs : itemsOf it.events = xs)
    (hg : (if it.events.all Option.isSome ∧ it.claimed = xs.length then B else none) = some y) :
    it = honest xs ∧ B = some y := by
  by_cases hc : it.events.all Option.isSome ∧ it.claimed = xs.length
  · rw [if_pos hc] at hg
    exact ⟨hxs ▸ it.eq_honest hc.1 (hxs ▸ hc.2), hg⟩
  · rw [if_neg hc] at hg
    cases hg

/-! ### The guards the two operations share -/

/-- the length guard; the model compares `dimension == claimed`, the theorems assume `claimed = dimension` -/
theorem lenOk_iff {a b c : Nat} : (a == 0 || b == c) = true ↔ (a = 0 ∨ c = b) := by
  simp only [Bool.or_eq_true, beq_iff_eq]
  exact ⟨fun h => h.imp id Eq.symm, fun h => h.imp id Eq.symm⟩

/-- the three guards of `insert_row` / `insert_col` (index, claimed length, capacity), each of which ends the call with `x` -/
theorem guards_reject {β : Type} {a : Prop} [Decidable a] {b c : Bool} {x y : β} (h : ¬ (a ∧ b = true ∧ c = true)) :
    (if ¬ a then x else if !b then x else if !c then x else y) = x := by
  by_cases ha : a
  · rw [if_neg (not_not_intro ha)]
    cases b
    · rfl
    · cases c
      · rfl
      · exact absurd ⟨ha, rfl, rfl⟩ h
  · rw [if_pos ha]

/-- the line length the guards of `insert_row` / `insert_col` settle on is the claimed one -/
theorem ite_claimed {d claimed e : Nat} (hlen : d = 0 ∨ claimed = e) : (if d = 0 then claimed else e) = claimed := by
  rcases hlen with h0 | h1
  · rw [if_pos h0]
  · rw [h1, ite_self]

/-- where row `i` starts does not depend on which of the two line lengths is used: with no rows `i = 0`, otherwise they agree -/
theorem row_start_eq {i R N C : Nat} (hi : i ≤ R) (hlen : R = 0 ∨ N = C) : i * N = i * C := by
  rcases hlen with h0 | h1
  · rw [show i = 0 from Nat.le_zero.1 (h0 ▸ hi), Nat.zero_mul, Nat.zero_mul]
  · rw [h1]

/-- past the capacity guard the claimed line fits, also into the spare cells (`hsp`, as the C11 statements have it: `reserve`'s
    contract is assumed only where `reserve` succeeds) -/
theorem guards_bounds {cap len claimed d e sl : Nat} (hlen : d = 0 ∨ claimed = e)
    (hres : reserveOk cap len (if d = 0 then claimed else e) = true)
    (hsp : claimed ≤ sl ∨ ¬ reserveOk cap len (if d = 0 then claimed else e) = true) :
    len + claimed ≤ cap ∧ claimed ≤ sl := by
  rw [ite_claimed hlen] at hres hsp
  exact ⟨of_decide_eq_true hres, hsp.resolve_right fun h => h hres⟩

theorem reserveOk_false_of_lt {cap len k : Nat} (h : cap < len + k) : reserveOk cap len k = false :=
  decide_eq_false (Nat.not_le.2 h)

/-! ### How an accepted call ends -/

/-- how `insert_row` ends once its row is filled: in a debug build the iterator is pulled once more
    (`debug_assert!(iter.next().is_none())`); an item, which is dropped and goes back behind the events left, or a panic unwinds
    to the array `panic`, leaking `leak` -/
def rowEnd (m : Mode) (ok panic : TD α) (leak : List α) (rem : List (Option α)) : InsOut α :=
  let (ev, err, droppedItem) := debugExhausted m rem
  match err with
  | some e => ⟨panic, throw e, ev ++ droppedItem.map some, leak⟩
  | none => ⟨ok, pure (), ev, []⟩

/-- the same for `insert_col`, which pulls its script from the back (`rem` is in the order pulled) and unwinds to the empty array;
    an item the assertion drops goes back where it came from -/
def colEnd (m : Mode) (ok : TD α) (leak : List α) (rem : List (Option α)) : InsOut α :=
  let (ev, err, droppedItem) := debugExhausted m rem
  match err with
  | some e => ⟨⟨[], 0, 0⟩, throw e, (droppedItem.map some ++ ev).reverse, leak⟩
  | none => ⟨ok, pure (), ev.reverse, []⟩

theorem rowEnd_nil (m : Mode) (ok panic : TD α) (leak : List α) : rowEnd m ok panic leak [] = ⟨ok, .ok (), [], []⟩ := by
  rw [rowEnd, debugExhausted_nil]
  rfl

theorem colEnd_nil (m : Mode) (ok : TD α) (leak : List α) : colEnd m ok leak [] = ⟨ok, .ok (), [], []⟩ := by
  rw [colEnd, debugExhausted_nil]
  rfl

/-- the two ways it can end; the events handed back hold the items that were left -/
theorem rowEnd_cases (m : Mode) (ok panic : TD α) (leak : List α) (rem : List (Option α)) :
    ∃ ev, (itemsOf ev).Perm (itemsOf rem) ∧
      (rowEnd m ok panic leak rem = ⟨ok, .ok (), ev, []⟩ ∨ rowEnd m ok panic leak rem = ⟨panic, .error .panic, ev, leak⟩) := by
  rw [rowEnd]
  rcases debugExhausted_cases m rem with h | ⟨ev, rfl, h⟩ | ⟨x, ev, rfl, h⟩ <;> rw [h]
  · exact ⟨rem, .refl _, .inl rfl⟩
  · exact ⟨ev ++ [], by simp [itemsOf], .inr rfl⟩
  · exact ⟨ev ++ [some x], by simp [itemsOf], .inr rfl⟩

theorem colEnd_cases (m : Mode) (ok : TD α) (leak : List α) (rem : List (Option α)) :
    ∃ ev, (itemsOf ev).Perm (itemsOf rem) ∧
      (colEnd m ok leak rem = ⟨ok, .ok (), ev, []⟩ ∨ colEnd m ok leak rem = ⟨⟨[], 0, 0⟩, .error .panic, ev, leak⟩) := by
  rw [colEnd]
  rcases debugExhausted_cases m rem with h | ⟨ev, rfl, h⟩ | ⟨x, ev, rfl, h⟩ <;> rw [h]
  · exact ⟨rem.reverse, by rw [itemsOf_reverse]; exact List.reverse_perm _, .inl rfl⟩
  · exact ⟨_, by rw [itemsOf_reverse]; exact (List.reverse_perm _).trans (by simp [itemsOf]), .inr rfl⟩
  · exact ⟨_, by rw [itemsOf_reverse]; exact List.reverse_perm _, .inr rfl⟩

/-! ### `insert_row` -/

/-- the fill loop of `insert_row` after it has written the items `xs` over the junk `J`: it goes on behind them with what is
    left of the script.  `k = 0`: the loop is done. -/
theorem fillLoop_items (k : Nat) (rest : List (Option α)) (Y xs X J : List α) (hJ : J.length = xs.length) :
    fillLoop (k + xs.length) (xs.map some ++ rest) (X ++ J ++ Y) X.length =
      (let (b, ev', n, err) := fillLoop k rest (X ++ xs ++ Y) (X.length + xs.length)
       (b, ev', n + xs.length, err)) := by
  induction xs generalizing X J with
  | nil =>
    have : J = [] := List.eq_nil_of_length_eq_zero hJ
    subst this
    rcases h : fillLoop k rest (X ++ Y) X.length with ⟨b, ev', n, err⟩
    simp [h]
  | cons x xs ih =>
    cases J with
    | nil => simp at hJ
    | cons j J =>
    have ih := ih (X ++ [x]) J (by simpa using hJ)
    have hset : (X ++ j :: J ++ Y).set X.length x = (X ++ [x]) ++ J ++ Y := by simp
    simp only [List.map_cons, List.length_cons, List.cons_append, ← Nat.add_assoc, fillLoop]
    rw [if_pos (by simp), hset, show X.length + 1 = (X ++ [x]).length by simp, ih]
    simp only [List.append_assoc, List.cons_append, List.nil_append, List.length_append, List.length_cons, List.length_nil,
      Nat.add_assoc, Nat.add_comm 1]

theorem fillLoop_stop (k : Nat) (ev : List (Option α)) (buf : List α) (p : Nat) (hev : Stops ev) :
    fillLoop (k + 1) ev buf p = (buf, ev.tail, 0, some .panic) := by
  rcases hev with rfl | ⟨tl, rfl⟩ <;> rfl

/-- the rows of a valid array with the line `ys` inserted at row `i`: equal rows, and their cells -/
theorem TD.Inv.grid_insertIdx {t : TD α} (h : t.Inv) {i : Nat} (hi : i ≤ t.numRows) (ys : List α)
    (hlen : t.numRows = 0 ∨ ys.length = t.numCols) :
    (∀ ρ ∈ t.grid.insertIdx i ys, ρ.length = ys.length) ∧
      (t.grid.insertIdx i ys).flatten = t.data.take (i * t.numCols) ++ ys ++ t.data.drop (i * t.numCols) ∧
      (t.grid.insertIdx i ys).flatten.length = t.data.length + ys.length := by
  have hil : i ≤ t.grid.length := h.grid_length ▸ hi
  have hg : ∀ r ∈ t.grid, r.length = ys.length := by
    rcases hlen with h0 | h1
    · intro r hr
      rw [List.length_eq_zero_iff.1 (h.grid_length.trans h0)] at hr
      cases hr
    · rw [h1]; exact t.grid_row_length
  have hs : i * ys.length = i * t.numCols := row_start_eq hi hlen
  have hflat := flatten_insertIdx_uniform ys.length t.grid hg i ys hil
  rw [← h.data_eq_flatten_grid, hs] at hflat
  refine ⟨fun ρ hρ => ((List.mem_insertIdx hil).1 hρ).elim (fun e => e ▸ rfl) (hg ρ), hflat, ?_⟩
  rw [hflat, List.append_assoc, List.length_append, List.length_append, Nat.add_left_comm, ← List.length_append,
    List.take_append_drop, Nat.add_comm]

/-- the array assembled from them, in the terms of `insert_row` (an empty line can only be accepted by an empty array, hence the
    model's way of writing the number of rows) -/
theorem TD.Inv.ofRows_insertIdx {t : TD α} (h : t.Inv) {i : Nat} (hi : i ≤ t.numRows) (ys : List α)
    (hlen : t.numRows = 0 ∨ ys.length = t.numCols) :
    TD.ofRows ys.length (t.grid.insertIdx i ys) =
      ⟨t.data.take (i * t.numCols) ++ ys ++ t.data.drop (i * t.numCols), if ys.length > 0 then t.numRows + 1 else t.numRows,
        ys.length⟩ := by
  have hil : i ≤ t.grid.length := h.grid_length ▸ hi
  have hgl : (t.grid.insertIdx i ys).length = t.numRows + 1 := by rw [List.length_insertIdx_of_le_length hil, h.grid_length]
  rw [TD.ofRows_of_rows_ne _ (List.ne_nil_of_length_pos (hgl ▸ Nat.succ_pos _)), (h.grid_insertIdx hi ys hlen).2.1, hgl]
  by_cases h0 : ys.length = 0
  · rw [if_neg (Nat.not_lt.2 (Nat.le_of_eq h0)), if_pos h0, hlen.elim id fun h1 => h.zero.1 (h1 ▸ h0)]
  · rw [if_pos (Nat.pos_of_ne_zero h0), if_neg h0]

/-- the complete outcome of an accepted `insert_row` (index, claimed length and capacity pass the guards; `N` cells per row
    afterwards) for the two shapes a script can have (`script_split`): items `ys` for all `N` cells, then `rest`; or for
    fewer, then the end of the script or a panic -/
theorem TD.Inv.insertRow_script {t : TD α} (h : t.Inv) (m : Mode) (cap : Nat) (i N : Nat) (ys spare : List α)
    (rest : List (Option α)) (hi : i ≤ t.numRows) (hlen : t.numRows = 0 ∨ N = t.numCols)
    (hcap : t.data.length + N ≤ cap) (hsp : N ≤ spare.length) :
    (ys.length = N → t.insertRow m cap i ⟨N, ys.map some ++ rest⟩ spare =
      rowEnd m (TD.ofRows N (t.grid.insertIdx i ys))
        ⟨t.data.take (i * t.numCols), i, if i = 0 then 0 else t.numCols⟩ (ys ++ t.data.drop (i * t.numCols)) rest) ∧
    (ys.length < N → Stops rest → t.insertRow m cap i ⟨N, ys.map some ++ rest⟩ spare =
      ⟨⟨t.data.take (i * t.numCols), i, if i = 0 then 0 else t.numCols⟩, .error .panic, rest.tail,
        ys ++ t.data.drop (i * t.numCols)⟩) := by
  -- the successful result as the model writes it
  have hof : ys.length = N → TD.ofRows N (t.grid.insertIdx i ys) =
      ⟨t.data.take (i * t.numCols) ++ ys ++ t.data.drop (i * t.numCols), if N > 0 then t.numRows + 1 else t.numRows, N⟩ :=
    fun hy => by subst hy; exact h.ofRows_insertIdx hi ys hlen
  have hsle := h.row_start_le hi
  have hw := h.word
  obtain ⟨data, R, C⟩ := t
  simp only at hi hlen hcap hsle hw ⊢
  have hs : i * N = i * C := row_start_eq hi hlen
  have hmul : umul m i N = .ok (i * C) := by
    rw [← hs]; exact umul_ok m (hs ▸ Nat.lt_of_le_of_lt hsle hw)
  -- `data = A ++ T` (the rows before / from row `i`), `spare = J ++ Y` (`J`: the `N` cells that become the gap); the move gives
  -- `A ++ J' ++ T ++ Y`, the fill loop writes `ys` over `J'`
  obtain ⟨A, T, rfl, hA⟩ := exists_append_of_le_length hsle
  rw [← hA] at hmul
  have hsle : A.length ≤ (A ++ T).length := by simp
  obtain ⟨J, Y, rfl, hJ⟩ := exists_append_of_le_length hsp
  obtain ⟨J', hJ', hmv⟩ := memmoveChecked_right A T J Y
  have hmv' : memmoveChecked (A ++ T ++ (J ++ Y)) A.length (A.length + N) ((A ++ T).length - A.length)
      = .ok (A ++ J' ++ T ++ Y) := by
    rw [← hJ, List.length_append, Nat.add_sub_cancel_left, ← List.append_assoc]; exact hmv
  rw [← hA, List.take_left' rfl, List.drop_left' rfl]
  -- the call is named so that it is unfolded once, in `ho`, for both script shapes
  generalize ho : TD.insertRow m cap ⟨A ++ T, R, C⟩ i ⟨N, ys.map some ++ rest⟩ (J ++ Y) = o
  unfold TD.insertRow at ho
  have hres : reserveOk cap (A ++ T).length N = true := decide_eq_true hcap
  simp only [hi, lenOk_iff.2 hlen, ite_claimed hlen, hres, hmul, hsle, hmv',
    if_neg (Nat.not_lt.2 hsp), not_true_eq_false, if_false, Bool.not_true, Bool.false_eq_true, List.take_left' rfl,
    List.drop_left' rfl] at ho
  constructor
  · intro hy
    rw [hof hy, ← hA, List.take_left' rfl, List.drop_left' rfl]
    have hfill := fillLoop_items 0 rest (T ++ Y) ys A J' (hJ'.trans (hJ.trans hy.symm))
    rw [Nat.zero_add, hy, ← List.append_assoc] at hfill
    simp only [hfill, fillLoop] at ho
    have e1 : ((A ++ ys ++ (T ++ Y)).drop A.length).take (0 + N) = ys := by
      rw [List.append_assoc, List.drop_left' rfl, Nat.zero_add, ← hy, List.take_left' rfl]
    have e2 : (A ++ ys ++ (T ++ Y)).take ((A ++ T).length + N) = A ++ ys ++ T := by
      rw [← List.append_assoc]
      exact List.take_left' (by simp only [List.length_append, hy]; exact Nat.add_right_comm ..)
    rw [e1, e2] at ho
    subst ho
    unfold rowEnd
    rcases debugExhausted m rest with ⟨ev, _ | e, d⟩ <;> rfl
  · intro hy hrest
    obtain ⟨k, hk⟩ := Nat.exists_eq_add_of_lt hy
    rw [Nat.add_assoc, Nat.add_comm] at hk
    obtain ⟨J₁, J₂, rfl, hJ₁⟩ := exists_append_of_le_length ((hJ'.trans hJ).symm ▸ Nat.le_of_lt hy : ys.length ≤ J'.length)
    have hfill := fillLoop_items (k + 1) rest (J₂ ++ T ++ Y) ys A J₁ hJ₁
    rw [← hk, fillLoop_stop k rest _ _ hrest] at hfill
    simp only [List.append_assoc] at hfill ho
    simp only [hfill] at ho
    rw [List.drop_left' rfl, Nat.zero_add, List.take_left' rfl] at ho
    exact ho.symm

theorem TD.Inv.insertRow_honest {t : TD α} (h : t.Inv) (m : Mode) (cap : Nat) (i : Nat) (xs spare : List α)
    (hi : i ≤ t.numRows) (hlen : t.numRows = 0 ∨ xs.length = t.numCols)
    (hcap : t.data.length + xs.length ≤ cap) (hsp : xs.length ≤ spare.length) :
    t.insertRow m cap i (honest xs) spare = ⟨TD.ofRows xs.length (t.grid.insertIdx i xs), .ok (), [], []⟩ := by
  have ho := (h.insertRow_script m cap i xs.length xs spare [] hi hlen hcap hsp).1 rfl
  rw [List.append_nil] at ho
  rw [honest, ho, rowEnd_nil]

theorem TD.insertRow_reject (m : Mode) (cap : Nat) (t : TD α) (i : Nat) (it : IterScript α) (spare : List α)
    (hbad : ¬ (i ≤ t.numRows ∧ (t.numRows = 0 ∨ it.claimed = t.numCols) ∧
      reserveOk cap t.data.length (if t.numRows = 0 then it.claimed else t.numCols) = true)) :
    t.insertRow m cap i it spare = ⟨t, .error .panic, it.events, []⟩ := by
  unfold TD.insertRow
  exact guards_reject fun h => hbad ⟨h.1, lenOk_iff.1 h.2.1, h.2.2⟩

theorem TD.insertRow_over_cap (m : Mode) (cap : Nat) (t : TD α) (i : Nat) (it : IterScript α) (spare : List α)
    (h : cap < t.data.length + it.claimed) : t.insertRow m cap i it spare = ⟨t, .error .panic, it.events, []⟩ := by
  refine TD.insertRow_reject m cap t i it spare fun ⟨_, hl, hr⟩ => ?_
  rw [ite_claimed hl, reserveOk_false_of_lt h] at hr
  cases hr

/-! ### `insAt`

`insAt i ρ x` (Spec/Grid.lean) is `ρ.insertIdx i x` for `i ≤ |ρ|`; it is written with `take`/`drop`, for every `i`, because
those are the blocks the buffer is cut into while `insert_col` runs. -/

theorem insAt_length (i : Nat) (ρ : List α) (x : α) : (insAt i ρ x).length = ρ.length + 1 := by
  rw [insAt, List.length_append, List.length_cons, ← Nat.add_assoc, ← List.length_append, List.take_append_drop]

theorem zipWith_insAt_length (i : Nat) (rows : List (List α)) (xs : List α) (hrl : xs.length = rows.length) :
    (List.zipWith (insAt i) rows xs).length = xs.length := by
  rw [List.length_zipWith, ← hrl, Nat.min_self]

theorem zipWith_insAt_row_length (C i : Nat) (rows : List (List α)) (xs : List α)
    (hrows : ∀ r ∈ rows, r.length = C) : ∀ r ∈ List.zipWith (insAt i) rows xs, r.length = C + 1 := by
  induction rows generalizing xs with
  | nil => simp
  | cons ρ rows ih =>
    cases xs with
    | nil => simp
    | cons x xs =>
      intro r hr
      simp only [List.zipWith_cons_cons, List.mem_cons] at hr
      rcases hr with rfl | hr
      · rw [insAt_length, hrows ρ (by simp)]
      · exact ih xs (fun r hr => hrows r (by simp [hr])) r hr

theorem insAt_perm (i : Nat) (ρ : List α) (x : α) : (insAt i ρ x).Perm (x :: ρ) := by
  unfold insAt
  have h := (List.perm_middle (a := x) (l₁ := ρ.take i) (l₂ := ρ.drop i))
  rw [List.take_append_drop] at h
  exact h

/-- inserting one item per row conserves the cells -/
theorem zipWith_insAt_flatten_perm (i : Nat) : ∀ (rows : List (List α)) (xs : List α), xs.length = rows.length →
    (List.zipWith (insAt i) rows xs).flatten.Perm (rows.flatten ++ xs)
  | [], xs, h => by
    have : xs = [] := List.eq_nil_of_length_eq_zero (by simpa using h)
    subst this
    simp
  | ρ :: rows, [], h => by simp at h
  | ρ :: rows, x :: xs, h => by
    have ih := zipWith_insAt_flatten_perm i rows xs (by simpa using h)
    simp only [List.zipWith_cons_cons, List.flatten_cons]
    have h1 : (insAt i ρ x ++ (List.zipWith (insAt i) rows xs).flatten).Perm
        ((x :: ρ) ++ (rows.flatten ++ xs)) := (insAt_perm i ρ x).append ih
    refine h1.trans ?_
    -- x :: ρ ++ (F ++ xs)  ~  ρ ++ F ++ x :: xs
    have h2 : (x :: (ρ ++ (rows.flatten ++ xs))).Perm (ρ ++ rows.flatten ++ x :: xs) := by
      rw [← List.append_assoc]
      exact (List.perm_middle (a := x) (l₁ := ρ ++ rows.flatten) (l₂ := xs)).symm
    simpa using h2

theorem zipWith_insAt_flatten_length (i : Nat) (rows : List (List α)) (xs : List α) (hrl : xs.length = rows.length) :
    (List.zipWith (insAt i) rows xs).flatten.length = rows.flatten.length + xs.length := by
  rw [(zipWith_insAt_flatten_perm i rows xs hrl).length_eq, List.length_append]

theorem zipWith_insAt_replicate_nil (xs : List α) :
    (List.zipWith (insAt 0) (List.replicate xs.length ([] : List α)) xs).flatten = xs := by
  induction xs with
  | nil => simp
  | cons x xs ih => simp [List.replicate_succ, insAt, ih]

theorem le_zipWith_insAt_flatten_length (C i : Nat) (hi : i ≤ C) (rows : List (List α)) (xs : List α) (hr : rows ≠ [])
    (hrows : ∀ r ∈ rows, r.length = C) (hrl : xs.length = rows.length) :
    i ≤ (List.zipWith (insAt i) rows xs).flatten.length := by
  rw [zipWith_insAt_flatten_length i rows xs hrl, flatten_length_uniform C rows hrows]
  exact Nat.le_trans hi (Nat.le_trans (Nat.le_mul_of_pos_left C (List.length_pos_iff.2 hr)) (Nat.le_add_right _ _))

/-! ### `insert_col`: its loop and its critical section -/

/-- one iteration of `insert_col`'s loop on a buffer cut into blocks: the `C` cells `blk` before `read_p` move right across the
    junk `J`, the item lands in the last junk cell.  All position arithmetic of the loop is here; `C`, `rp`, `wp` come with
    equations because the callers have them in another form (`(A ++ [ρ]).flatten.length`, not `X.length + C`). -/
theorem insColLoop_step (C k : Nat) (X blk J Y : List α) (x : α) (ev : List (Option α)) (rp wp : Nat)
    (hb : blk.length = C) (hJ : 0 < J.length) (hrp : rp = X.length + C) (hwp : wp = rp + J.length) :
    ∃ J', J'.length + 1 = J.length ∧
      insColLoop C (k + 1) (some x :: ev) (X ++ blk ++ J ++ Y) rp wp =
        (let (b, ev', rp', wp', n, err) := insColLoop C k ev (X ++ J' ++ x :: blk ++ Y) X.length (X.length + J'.length)
         (b, ev', rp', wp', n + 1, err)) := by
  obtain ⟨J₁, J', hJ', hmv, hpw⟩ := memmove_right_then_write X blk J Y x hJ
  refine ⟨J', hJ', ?_⟩
  subst hb hrp hwp
  have h0 : ¬ (X.length + blk.length < blk.length ∨ X.length + blk.length + J.length < blk.length) :=
    not_or.2 ⟨Nat.not_lt.2 (Nat.le_add_left _ _), Nat.not_lt.2 (Nat.le_trans (Nat.le_add_left _ _) (Nat.le_add_right _ _))⟩
  have e3 : X.length + J.length - 1 = X.length + J'.length := by rw [← hJ', ← Nat.add_assoc, Nat.add_sub_cancel]
  simp only [insColLoop]
  rw [if_neg h0, Nat.add_sub_cancel, Nat.add_right_comm, Nat.add_sub_cancel, hmv]
  simp only []
  rw [if_neg (Nat.not_lt.2 (Nat.le_trans hJ (Nat.le_add_left _ _))), hpw, e3]

/-- "unexpected iterator length", or the caller's panic, while the loop still has a row to do -/
theorem insColLoop_stop (C k : Nat) (ev : List (Option α)) {buf : List α} {rp wp : Nat}
    (hev : Stops ev) (h1 : C ≤ rp) (h2 : rp < wp) (h3 : wp ≤ buf.length) :
    insColLoop C (k + 1) ev buf rp wp = (memmove buf (rp - C) (wp - C) C, ev.tail, rp - C, wp - C - 1, 0, some .panic) := by
  have hC : C ≤ wp := Nat.le_trans h1 (Nat.le_of_lt h2)
  simp only [insColLoop]
  rw [if_neg (not_or.2 ⟨Nat.not_lt.2 h1, Nat.not_lt.2 hC⟩),
    memmoveChecked_ok (by rw [Nat.sub_add_cancel h1]; exact Nat.le_trans (Nat.le_of_lt h2) h3)
      (by rw [Nat.sub_add_cancel hC]; exact h3)]
  simp only []
  rw [if_neg (Nat.not_lt.2 (Nat.sub_pos_of_lt (Nat.lt_of_le_of_lt h1 h2)))]
  rcases hev with rfl | ⟨tl, rfl⟩ <;> rfl

/-- what the end of `insert_col`'s critical section does with the events the loop did not consume (`colEnd` is what the call
    makes of it) -/
def critTail (m : Mode) (b : List α) (rem : List (Option α)) : Res (List α) × List (Option α) :=
  let (ev, err, droppedItem) := debugExhausted m rem
  match err with
  | some e => (throw e, droppedItem.map some ++ ev)
  | none => (pure b, ev)

/-- the part of `insert_col`'s critical section after its loop: the closing move of the first `i` cells, then `critTail` -/
def critRest (m : Mode) (i : Nat) : List α × List (Option α) × Nat × Nat × Nat × Option Err → Res (List α) × List (Option α)
  | (_, ev, _, _, _, some e) => (throw e, ev)
  | (buf, ev, rp, wp, _, none) =>
    if rp < i ∨ wp < i then (throw .ub, ev)
    else
      match memmoveChecked buf (rp - i) (wp - i) i with
      | .error e => (throw e, ev)
      | .ok buf => critTail m buf ev

/-- `insert_col`'s critical section on a non-empty array with its first move and write as a loop iteration (file header); then
    the loop proper and `critRest` -/
def critLoop (m : Mode) (C R i : Nat) :
    List α × List (Option α) × Nat × Nat × Nat × Option Err → Res (List α) × List (Option α)
  | (_, ev, _, _, _, some e) => (throw e, ev)
  | (buf, ev, rp, wp, _, none) => critRest m i (insColLoop C (R - 1) ev buf rp wp)

theorem insertColCrit_eq_critLoop {m : Mode} {C R i old new s : Nat} {buf : List α} {ev : List (Option α)} (hR : 0 < R) :
    insertColCrit m C R i old new s buf ev = critLoop m C R i (insColLoop s 1 ev buf old new) := by
  unfold insertColCrit
  rw [if_pos hR]
  simp only [insColLoop]
  by_cases h1 : old < s ∨ new < s
  · rw [if_pos h1, if_pos h1]; rfl
  rw [if_neg h1, if_neg h1]
  cases memmoveChecked buf (old - s) (new - s) s with
  | error e => rfl
  | ok b =>
    dsimp only
    by_cases h2 : new - s < 1
    · rw [if_pos h2, if_pos h2]; rfl
    rw [if_neg h2, if_neg h2]
    match ev with
    | [] => rfl
    | none :: ev => rfl
    | some x :: ev =>
      dsimp only
      cases ptrWrite b (new - s - 1) x with
      | error e => rfl
      | ok b' =>
        dsimp only
        rw [critLoop]
        -- what is left: `critRest` looks at the loop's error first
        rcases insColLoop C (R - 1) _ _ _ _ with ⟨b, ev', rp', wp', c, _ | e⟩ <;> rfl

/-- after a complete loop `read_p = write_p = i`: the closing move is onto itself -/
theorem critRest_done (m : Mode) (i c : Nat) (buf : List α) (ev : List (Option α)) (h : i ≤ buf.length) :
    critRest m i (buf, ev, i, i, c, none) = critTail m buf ev := by
  simp only [critRest]
  rw [if_neg (not_or.2 ⟨Nat.lt_irrefl i, Nat.lt_irrefl i⟩), Nat.sub_self, memmoveChecked_self _ _ _ (by rwa [Nat.zero_add])]

/-- the critical section of `insert_col` on a buffer that is the concatenation of rows `A ++ B` (each of `C` cells) followed by
    spare capacity, after it has taken the items `xs` for the rows `B` (consumed back to front): these rows have their items
    at column `i`, the gap is `|A|` cells wide and sits `i` cells into them; the loop goes on with the rows `A` (DESIGN.md
    Appendix A).  By induction on `B` from the front: the row that comes first is done last, by one more iteration. -/
theorem insertColCrit_rows (m : Mode) (C i : Nat) (hi : i ≤ C) (B : List (List α)) :
    ∀ (A : List (List α)) (xs spare : List α) (rest : List (Option α)), B ≠ [] → (∀ r ∈ A ++ B, r.length = C) →
    xs.length = B.length → (A ++ B).length ≤ spare.length →
    ∃ J, J.length = A.length ∧
      insertColCrit m C (A ++ B).length i (A ++ B).flatten.length ((A ++ B).flatten.length + (A ++ B).length) (C - i)
          ((A ++ B).flatten ++ spare) (xs.reverse.map some ++ rest) =
        critRest m i (insColLoop C A.length rest
          (A.flatten ++ (List.zipWith (insAt i) B xs).flatten.take i ++ J ++ (List.zipWith (insAt i) B xs).flatten.drop i
            ++ spare.drop (A ++ B).length)
          (A.flatten.length + i) (A.flatten.length + i + J.length)) := by
  induction B with
  | nil => intro _ _ _ _ hB; exact absurd rfl hB
  | cons ρ B ih =>
    intro A xs spare rest _ hrows hx hsp
    cases xs with
    | nil => simp at hx
    | cons x xs =>
    have hρ : ρ.length = C := hrows ρ (by simp)
    have hxs : xs.length = B.length := by simpa using hx
    by_cases hB : B = []
    · -- the last row: the first move and write of the critical section
      subst hB
      have : xs = [] := List.eq_nil_of_length_eq_zero hxs
      subst this
      obtain ⟨J, Y, rfl, hJ⟩ := exists_append_of_le_length hsp
      have hJ1 : J.length = A.length + 1 := by rw [hJ, List.length_append, List.length_singleton]
      obtain ⟨J', hJ', hstep⟩ := insColLoop_step (ρ.drop i).length 0 (A.flatten ++ ρ.take i) (ρ.drop i) J Y x rest
        (A ++ [ρ]).flatten.length ((A ++ [ρ]).flatten.length + (A ++ [ρ]).length) rfl (hJ1 ▸ Nat.succ_pos _)
        (by rw [← List.length_append]; simp [List.flatten_append]) (by rw [hJ])
      refine ⟨J', Nat.succ.inj (hJ'.trans hJ1), ?_⟩
      have hbuf : (A ++ [ρ]).flatten ++ (J ++ Y) = (A.flatten ++ ρ.take i) ++ ρ.drop i ++ J ++ Y := by
        simp [List.flatten_append]
      rw [insertColCrit_eq_critLoop (by simp), hbuf, show C - i = (ρ.drop i).length by simp [hρ],
        List.reverse_singleton, List.map_singleton, List.singleton_append, hstep, List.drop_left' hJ]
      simp only [insColLoop, critLoop, List.length_append, List.length_singleton, Nat.add_sub_cancel]
      simp [insAt, hρ, hi]
    · -- a row before: one iteration of the loop
      obtain ⟨J, hJ, hcrit⟩ := ih (A ++ [ρ]) xs spare (some x :: rest) hB (by simpa using hrows) hxs (by simpa using hsp)
      rw [List.length_append, List.length_singleton] at hJ
      have hZ := le_zipWith_insAt_flatten_length C i hi B xs hB (fun r hr => hrows r (by simp [hr])) hxs
      rw [List.zipWith_cons_cons, List.flatten_cons]
      generalize (List.zipWith (insAt i) B xs).flatten = Z' at hcrit hZ ⊢
      obtain ⟨J', hJ', hstep⟩ := insColLoop_step C A.length (A.flatten ++ ρ.take i) (ρ.drop i ++ Z'.take i) J
        (Z'.drop i ++ spare.drop (A ++ [ρ] ++ B).length) x rest ((A ++ [ρ]).flatten.length + i)
        ((A ++ [ρ]).flatten.length + i + J.length)
        (by rw [List.length_append, List.length_drop, List.length_take, hρ, Nat.min_eq_left hZ, Nat.sub_add_cancel hi])
        (hJ ▸ Nat.succ_pos _)
        (by simp only [List.flatten_append, List.flatten_singleton, List.length_append, List.length_take, hρ,
          Nat.min_eq_left hi, Nat.add_assoc, Nat.add_comm i]) rfl
      refine ⟨J', Nat.succ.inj (hJ'.trans hJ), ?_⟩
      have hbuf : (A ++ [ρ]).flatten ++ Z'.take i ++ J ++ Z'.drop i ++ spare.drop (A ++ [ρ] ++ B).length
          = (A.flatten ++ ρ.take i) ++ (ρ.drop i ++ Z'.take i) ++ J ++ (Z'.drop i ++ spare.drop (A ++ [ρ] ++ B).length) := by
        rw [show (A ++ [ρ]).flatten = A.flatten ++ (ρ.take i ++ ρ.drop i) by simp [List.flatten_append]]
        simp only [List.append_assoc]
      rw [show A ++ ρ :: B = A ++ [ρ] ++ B by simp,
        show (x :: xs).reverse.map some ++ rest = xs.reverse.map some ++ some x :: rest by simp, hcrit, hbuf,
        List.length_append, List.length_singleton, hstep]
      have e1 : (insAt i ρ x ++ Z').take i = ρ.take i := by
        rw [insAt, List.append_assoc, List.take_left' (by simp [hρ, hi])]
      have e2 : (insAt i ρ x ++ Z').drop i = x :: (ρ.drop i ++ Z'.take i) ++ Z'.drop i := by
        rw [insAt, List.append_assoc, List.drop_left' (by simp [hρ, hi])]
        simp
      rw [e1, e2]
      simp only [List.append_assoc, List.length_append, List.length_take, hρ, Nat.min_eq_left hi]
      -- what is left: `critRest` ignores the iteration count that `insColLoop_step` bumps
      rcases insColLoop C A.length rest _ _ _ with ⟨b, ev', rp', wp', c, _ | e⟩ <;> rfl

/-- `insertColCrit` on a script with an item `xs` for every row, then `rem`: every row gets its item at column `i`, the spare
    cells not used stay behind -/
theorem insertColCrit_full (m : Mode) (C i : Nat) (hi : i ≤ C) (rows : List (List α)) (xs spare : List α)
    (rem : List (Option α))
    (hrows : ∀ r ∈ rows, r.length = C) (hx : xs.length = rows.length) (hsp : xs.length ≤ spare.length) :
    insertColCrit m C xs.length i rows.flatten.length (rows.flatten.length + xs.length) (C - i)
        (rows.flatten ++ spare) (xs.reverse.map some ++ rem)
      = critTail m ((List.zipWith (insAt i) rows xs).flatten ++ spare.drop xs.length) rem := by
  by_cases hr : rows = []
  · subst hr
    have : xs = [] := List.eq_nil_of_length_eq_zero hx
    subst this
    rcases hde : debugExhausted m rem with ⟨ev, _ | e, d⟩ <;> simp [insertColCrit, critTail, hde]
  obtain ⟨J, hJ, hcrit⟩ := insertColCrit_rows m C i hi rows [] xs spare rem hr hrows hx (by simpa [hx] using hsp)
  have hnil : J = [] := List.eq_nil_of_length_eq_zero hJ
  subst hnil
  simp only [List.nil_append, List.flatten_nil, List.length_nil, Nat.zero_add, List.append_nil, Nat.add_zero, insColLoop,
    ← hx] at hcrit
  rw [hcrit, List.take_append_drop, critRest_done]
  rw [List.length_append]
  exact Nat.le_trans (le_zipWith_insAt_flatten_length C i hi rows xs hr hrows hx) (Nat.le_add_right _ _)

/-- `insertColCrit` on a script with items `ys` (as pulled: last row first) for the rows `B` only, which then ends or panics:
    a panic at the pull for the last row of `A`; never `ub` -/
theorem insertColCrit_short (m : Mode) (C i : Nat) (hi : i ≤ C) (A B : List (List α)) (ys spare : List α)
    (tail : List (Option α)) (hA : A ≠ []) (hrows : ∀ r ∈ A ++ B, r.length = C) (hy : ys.length = B.length)
    (hsp : (A ++ B).length ≤ spare.length) (ht : Stops tail) :
    insertColCrit m C (A ++ B).length i (A ++ B).flatten.length ((A ++ B).flatten.length + (A ++ B).length) (C - i)
        ((A ++ B).flatten ++ spare) (ys.map some ++ tail) = (.error .panic, tail.tail) := by
  have hApos : 0 < A.length := List.length_pos_iff.2 hA
  obtain ⟨a, ha⟩ : ∃ a, A.length = a + 1 := ⟨_, (Nat.sub_add_cancel hApos).symm⟩
  have hAC : C ≤ A.flatten.length := by
    rw [flatten_length_uniform C A (fun r hr => hrows r (by simp [hr]))]
    exact Nat.le_mul_of_pos_left C hApos
  by_cases hB : B = []
  · subst hB
    have : ys = [] := List.eq_nil_of_length_eq_zero hy
    subst this
    rw [List.append_nil] at hsp ⊢
    rw [insertColCrit_eq_critLoop hApos, List.map_nil, List.nil_append,
      insColLoop_stop _ 0 tail ht (Nat.le_trans (Nat.sub_le _ _) hAC) (Nat.lt_add_of_pos_right hApos)
        (by rw [List.length_append]; exact Nat.add_le_add_left hsp _)]
    rfl
  obtain ⟨J, hJ, hcrit⟩ := insertColCrit_rows m C i hi B A ys.reverse spare tail hB hrows (by simpa using hy) hsp
  rw [List.reverse_reverse] at hcrit
  have := le_zipWith_insAt_flatten_length C i hi B ys.reverse hB (fun r hr => hrows r (by simp [hr])) (by simpa using hy)
  rw [hcrit, ha, insColLoop_stop C a tail ht (Nat.le_trans hAC (Nat.le_add_right _ _))
    (Nat.lt_add_of_pos_right (hJ ▸ hApos)) (by
      simp only [List.length_append, List.length_take, Nat.min_eq_left this]
      exact Nat.le_trans (Nat.le_add_right _ _) (Nat.le_add_right _ _))]
  rfl

/-! ### `insert_col`: the call -/

theorem pulled_append (pre rem : List (Option α)) : pulled (pre ++ rem) rem = itemsOf pre := by
  unfold pulled itemsOf
  rw [List.length_append, Nat.add_sub_cancel, List.take_left' rfl]

/-- the items pulled when the script stops after the items `ys` -/
theorem pulled_stops (ys : List α) {rest : List (Option α)} (h : Stops rest) : pulled (ys.map some ++ rest) rest.tail = ys := by
  rcases h with rfl | ⟨tl, rfl⟩
  · exact (pulled_append _ []).trans (itemsOf_map_some ys)
  · rw [List.tail_cons, show ys.map some ++ none :: tl = (ys.map some ++ [none]) ++ tl by simp, pulled_append,
      itemsOf_append, itemsOf_map_some]
    exact List.append_nil ys

theorem TD.insertCol_reject (m : Mode) (cap : Nat) (t : TD α) (i : Nat) (it : IterScript α) (spare : List α)
    (hbad : ¬ (i ≤ t.numCols ∧ (t.numCols = 0 ∨ it.claimed = t.numRows) ∧
      reserveOk cap t.data.length (if t.numCols = 0 then it.claimed else t.numRows) = true)) :
    t.insertCol m cap i it spare = ⟨t, .error .panic, it.events, []⟩ := by
  unfold TD.insertCol
  exact guards_reject fun h => hbad ⟨h.1, lenOk_iff.1 h.2.1, h.2.2⟩

theorem TD.insertCol_over_cap (m : Mode) (cap : Nat) (t : TD α) (i : Nat) (it : IterScript α) (spare : List α)
    (h : cap < t.data.length + it.claimed) : t.insertCol m cap i it spare = ⟨t, .error .panic, it.events, []⟩ := by
  refine TD.insertCol_reject m cap t i it spare fun ⟨_, hl, hr⟩ => ?_
  rw [ite_claimed hl, reserveOk_false_of_lt h] at hr
  cases hr

/-- an accepted `insert_col` (index, claimed length and capacity pass the guards; `R` rows afterwards) is its critical
    section followed by `set_len`, or, after a panic, by nothing: the `Vec` stays at length 0 and everything is leaked -/
theorem TD.insertCol_accepted (m : Mode) (cap : Nat) (t : TD α) (i R : Nat) (ev : List (Option α)) (spare : List α)
    (hi : i ≤ t.numCols) (hlen : t.numCols = 0 ∨ R = t.numRows)
    (hcap : t.data.length + R ≤ cap) (hsp : R ≤ spare.length) (hword : t.data.length + R < WORD) :
    t.insertCol m cap i ⟨R, ev⟩ spare =
      match insertColCrit m t.numCols R i t.data.length (t.data.length + R) (t.numCols - i) (t.data ++ spare)
          ev.reverse with
      | (.error e, rem) => ⟨⟨[], 0, 0⟩, .error e, rem.reverse, pulled ev.reverse rem ++ t.data⟩
      | (.ok buf, rem) =>
        if R > 0 then ⟨⟨buf.take (t.data.length + R), R, t.numCols + 1⟩, .ok (), rem.reverse, []⟩
        else ⟨⟨buf.take (t.data.length + R), 0, 0⟩, .ok (), rem.reverse, []⟩ := by
  have hres : reserveOk cap t.data.length R = true := by simp [reserveOk, hcap]
  unfold TD.insertCol
  simp only [hi, lenOk_iff.2 hlen, ite_claimed hlen, hres, uadd_ok m hword, usub_ok m hi, if_neg (Nat.not_lt.2 hsp),
    not_true_eq_false, if_false, Bool.not_true, Bool.false_eq_true]
  rfl

/-- the rows an `insert_col` of `n` items works on: the grid, or, for an array without columns, `n` empty rows -/
def TD.rowsForCol (t : TD α) (n : Nat) : List (List α) := if t.numCols = 0 then List.replicate n [] else t.grid

theorem TD.rowsForCol_of_zero {t : TD α} (hc : t.numCols = 0) (n : Nat) : t.rowsForCol n = List.replicate n [] := if_pos hc

theorem TD.rowsForCol_of_pos {t : TD α} (hc : 0 < t.numCols) (n : Nat) : t.rowsForCol n = t.grid := if_neg (Nat.ne_of_gt hc)

theorem TD.rowsForCol_row_length (t : TD α) (n : Nat) : ∀ r ∈ t.rowsForCol n, r.length = t.numCols := by
  rcases Nat.eq_zero_or_pos t.numCols with hc | hc
  · rw [TD.rowsForCol_of_zero hc, hc]
    exact fun r hr => List.eq_of_mem_replicate hr ▸ rfl
  · rw [TD.rowsForCol_of_pos hc]
    exact t.grid_row_length

theorem TD.Inv.flatten_rowsForCol {t : TD α} (h : t.Inv) (n : Nat) : (t.rowsForCol n).flatten = t.data := by
  rcases Nat.eq_zero_or_pos t.numCols with hc | hc
  · rw [TD.rowsForCol_of_zero hc, List.flatten_replicate_nil]
    exact (List.eq_nil_of_length_eq_zero (by rw [h.len, hc, Nat.zero_mul])).symm
  · rw [TD.rowsForCol_of_pos hc]
    exact h.data_eq_flatten_grid.symm

theorem TD.Inv.rowsForCol_length {t : TD α} (h : t.Inv) {n : Nat} (hlen : t.numCols = 0 ∨ n = t.numRows) :
    (t.rowsForCol n).length = n := by
  rcases Nat.eq_zero_or_pos t.numCols with hc | hc
  · rw [TD.rowsForCol_of_zero hc, List.length_replicate]
  · rw [TD.rowsForCol_of_pos hc, h.grid_length]
    exact (hlen.resolve_left (Nat.ne_of_gt hc)).symm

theorem TD.Inv.rowsForCol_insAt {t : TD α} (h : t.Inv) (i : Nat) {N : Nat} (hlen : t.numCols = 0 ∨ N = t.numRows)
    (xs : List α) (hx : xs.length = N) :
    (∀ ρ ∈ List.zipWith (insAt i) (t.rowsForCol N) xs, ρ.length = t.numCols + 1) ∧
      (List.zipWith (insAt i) (t.rowsForCol N) xs).flatten.Perm (t.data ++ xs) ∧
      (List.zipWith (insAt i) (t.rowsForCol N) xs).flatten.length = t.data.length + N := by
  have hrl := hx.trans (h.rowsForCol_length hlen).symm
  have hp := zipWith_insAt_flatten_perm i _ xs hrl
  rw [h.flatten_rowsForCol] at hp
  exact ⟨zipWith_insAt_row_length _ i _ xs (t.rowsForCol_row_length N), hp, by rw [hp.length_eq, List.length_append, hx]⟩

/-- the complete outcome of an accepted `insert_col` (index, claimed length and capacity pass the guards; `N` rows afterwards)
    for the two shapes its script can have in the order it is pulled, from the back (`script_split`): items `ys` (last
    row first) for all `N` rows, then `rest`; or for fewer, then the end of the script or a panic, which leaves the `Vec` at
    length 0 and everything leaked -/
theorem TD.Inv.insertCol_script {t : TD α} (h : t.Inv) (m : Mode) (cap : Nat) (i N : Nat) (ys spare : List α)
    (rest : List (Option α)) (hi : i ≤ t.numCols) (hlen : t.numCols = 0 ∨ N = t.numRows)
    (hcap : t.data.length + N ≤ cap) (hsp : N ≤ spare.length) (hword : t.data.length + N < WORD) :
    (ys.length = N → t.insertCol m cap i ⟨N, (ys.map some ++ rest).reverse⟩ spare =
      colEnd m (TD.ofRows (t.numCols + 1) (List.zipWith (insAt i) (t.rowsForCol N) ys.reverse)) (ys ++ t.data) rest) ∧
    (ys.length < N → Stops rest → t.insertCol m cap i ⟨N, (ys.map some ++ rest).reverse⟩ spare =
      ⟨⟨[], 0, 0⟩, .error .panic, rest.tail.reverse, ys ++ t.data⟩) := by
  have hrl := h.rowsForCol_length hlen
  have hrows := t.rowsForCol_row_length N
  have hdata := h.flatten_rowsForCol N
  rw [TD.insertCol_accepted m cap t i N _ spare hi hlen hcap hsp hword, List.reverse_reverse]
  constructor
  · intro hy
    have hyr : ys.reverse.length = (t.rowsForCol N).length := by rw [List.length_reverse, hy, hrl]
    have hcrit := insertColCrit_full m t.numCols i hi _ ys.reverse spare rest hrows hyr (by rw [List.length_reverse, hy]; exact hsp)
    rw [List.reverse_reverse, hdata, List.length_reverse, hy] at hcrit
    rw [hcrit, critTail, colEnd]
    obtain ⟨hall, -, hl⟩ := h.rowsForCol_insAt i hlen ys.reverse (by rw [List.length_reverse, hy])
    rcases debugExhausted_cases m rest with hd | ⟨ev, rfl, hd⟩ | ⟨x, ev, rfl, hd⟩ <;> rw [hd]
    · show (if N > 0 then (⟨⟨_, N, t.numCols + 1⟩, .ok (), rest.reverse, []⟩ : InsOut α) else ⟨⟨_, 0, 0⟩, .ok (), rest.reverse, []⟩) =
        ⟨TD.ofRows _ _, _, _, _⟩
      rw [List.take_left' hl, TD.ofRows_of_cols_ne (Nat.succ_ne_zero _), zipWith_insAt_length i _ _ hyr, List.length_reverse, hy]
      by_cases h0 : N = 0
      · rw [if_neg (Nat.not_lt.2 (Nat.le_of_eq h0)), if_pos h0, h0]; rfl
      · rw [if_pos (Nat.pos_of_ne_zero h0), if_neg h0]; rfl
    · show (⟨_, _, _, pulled (ys.map some ++ none :: ev) ev ++ t.data⟩ : InsOut α) = _
      rw [show pulled (ys.map some ++ none :: ev) ev = ys from pulled_stops ys (.inr ⟨ev, rfl⟩)]
      rfl
    · show (⟨_, _, _, pulled (ys.map some ++ some x :: ev) (some x :: ev) ++ t.data⟩ : InsOut α) = _
      rw [pulled_append, itemsOf_map_some]
      rfl
  · intro hy hrest
    obtain ⟨k, hk⟩ := Nat.exists_eq_add_of_lt hy
    have hsplit := List.take_append_drop (k + 1) (t.rowsForCol N)
    have hA : ((t.rowsForCol N).take (k + 1)).length = k + 1 := by
      rw [List.length_take, hrl, hk]; exact Nat.min_eq_left (Nat.le_add_left (k + 1) ys.length)
    have hB : ys.length = ((t.rowsForCol N).drop (k + 1)).length := by
      rw [List.length_drop, hrl, hk]; exact (Nat.add_sub_cancel (n := ys.length) (m := k + 1)).symm
    have hcrit := insertColCrit_short m t.numCols i hi _ _ ys spare rest (List.ne_nil_of_length_pos (by rw [hA]; exact Nat.succ_pos k))
      (hsplit.symm ▸ hrows) hB (by rw [hsplit, hrl]; exact hsp) hrest
    rw [hsplit, hdata, hrl] at hcrit
    rw [hcrit]
    show (⟨_, _, _, pulled (ys.map some ++ rest) rest.tail ++ t.data⟩ : InsOut α) = _
    rw [pulled_stops ys hrest]
theorem TD.Inv.insertCol_honest {t : TD α} (h : t.Inv) (m : Mode) (cap : Nat) (i : Nat) (xs spare : List α)
    (hi : i ≤ t.numCols) (hlen : t.numCols = 0 ∨ xs.length = t.numRows)
    (hcap : t.data.length + xs.length ≤ cap) (hsp : xs.length ≤ spare.length)
    (hword : t.data.length + xs.length < WORD) :
    t.insertCol m cap i (honest xs) spare =
      ⟨TD.ofRows (t.numCols + 1) (List.zipWith (insAt i) (t.rowsForCol xs.length) xs), .ok (), [], []⟩ := by
  have ho := (h.insertCol_script m cap i xs.length xs.reverse spare [] hi hlen hcap hsp hword).1 xs.length_reverse
  rwa [List.append_nil, ← List.map_reverse, List.reverse_reverse, colEnd_nil] at ho

/-! ### Judging an outcome -/

/-- an outcome `o` of `insert_row` / `insert_col` judged by where the cells and the items went (`written`: the items that reached
    the buffer): never `ub`, a valid array, every element accounted for once; this is what C11 asks -/
theorem insert_outcome_safe (t : TD α) (events : List (Option α)) (o : InsOut α) (written : List α)
    (hres : o.res = .ok () ∨ o.res = .error .panic) (hinv : o.t.Inv)
    (hcells : (o.t.data ++ o.leaked).Perm (t.data ++ written))
    (hitems : (itemsOf events).Perm (written ++ itemsOf o.rest)) :
    o.res ≠ .error .ub ∧ o.res ≠ .error .fuel ∧ o.t.Inv ∧
    (o.t.data ++ o.leaked ++ itemsOf o.rest).Perm (t.data ++ itemsOf events) := by
  refine ⟨?_, ?_, hinv, (hcells.append_right _).trans ?_⟩
  · rcases hres with h | h <;> rw [h] <;> simp
  · rcases hres with h | h <;> rw [h] <;> simp
  · rw [List.append_assoc]
    exact hitems.symm.append_left _

end Toodee
