/-
  Facts about `List`, `Option` and `List.range` that mention nothing of the model, by subject: `filterMap` when every image is `some`;
  lists read through `range`; rows of equal length; cutting a block out of a list; the rearrangements of appended lists that the
  conservation theorems need; permutations of `0..n` read with `getD`; functions that exchange two values.  Used by the cursor, cell,
  grid, drain, sort and history lemmas alike.
-/
namespace Toodee
variable {α β γ : Type}

/-! ### `filterMap`, mostly when every image is `some` -/

theorem filterMap_getElem?_of_isSome (f : β → Option γ) (l : List β)
    (h : ∀ x ∈ l, (f x).isSome) (i : Nat) : (l.filterMap f)[i]? = l[i]?.bind f := by
  induction l generalizing i with
  | nil => simp
  | cons x xs ih =>
    obtain ⟨y, hy⟩ := Option.isSome_iff_exists.1 (h x (by simp))
    rw [List.filterMap_cons_some hy]
    cases i with
    | zero => simp [hy]
    | succ i => simpa using ih (fun z hz => h z (by simp [hz])) i

theorem filterMap_length_of_isSome (f : β → Option γ) (l : List β)
    (h : ∀ x ∈ l, (f x).isSome) : (l.filterMap f).length = l.length := by
  induction l with
  | nil => simp
  | cons x xs ih =>
    obtain ⟨y, hy⟩ := Option.isSome_iff_exists.1 (h x (by simp))
    rw [List.filterMap_cons_some hy]
    simp [ih (fun z hz => h z (by simp [hz]))]

theorem filterMap_congr_mem {f g : β → Option γ} (l : List β)
    (h : ∀ x ∈ l, f x = g x) : l.filterMap f = l.filterMap g := by
  induction l with
  | nil => rfl
  | cons x xs ih =>
    have hx := h x (by simp)
    have ih' := ih (fun z hz => h z (by simp [hz]))
    simp only [List.filterMap_cons, hx, ih']

theorem filterMap_cons_toList (f : α → Option β) (p : α) (l : List α) :
    (p :: l).filterMap f = (f p).toList ++ l.filterMap f := by
  cases h : f p <;> simp [h]

theorem toList_filterMap (f : α → Option β) (x : Option α) : x.toList.filterMap f = (x.bind f).toList := by
  cases x with
  | none => rfl
  | some a => cases h : f a <;> simp [h]

theorem all_isSome_eq_map (ev : List (Option α)) (hall : ev.all Option.isSome = true) : ev = (ev.filterMap id).map some := by
  induction ev with
  | nil => rfl
  | cons e ev ih =>
    cases e with
    | none => simp at hall
    | some a =>
      simp only [List.all_cons, Bool.and_eq_true] at hall
      show some a :: ev = some a :: (ev.filterMap id).map some
      rw [← ih hall.2]

/-! ### Lists read through `List.range` -/

theorem map_range_getElem? (f : Nat → β) (k j : Nat) :
    ((List.range k).map f)[j]? = if j < k then some (f j) else none := by
  rw [List.getElem?_map]
  split
  · rw [List.getElem?_range ‹_›]; rfl
  · rw [List.getElem?_eq_none (by rw [List.length_range]; exact Nat.le_of_not_lt ‹_›)]; rfl

theorem map_range_drop (f : Nat → β) (k j : Nat) :
    ((List.range k).map f).drop j = (List.range (k - j)).map (fun i => f (i + j)) := by
  rw [← List.map_drop, List.range_eq_range', List.drop_range', List.range'_eq_map_range, List.map_map]
  simp only [Nat.zero_add, Nat.mul_one, Nat.add_comm j, Function.comp_def]

theorem map_range_take (f : Nat → β) (k j : Nat) :
    ((List.range k).map f).take j = (List.range (min j k)).map f := by
  rw [← List.map_take, List.take_range]

theorem map_range_congr {f g : Nat → β} (k : Nat) (h : ∀ i, i < k → f i = g i) :
    (List.range k).map f = (List.range k).map g :=
  List.map_congr_left fun i hi => h i (List.mem_range.1 hi)

theorem reverse_range (n : Nat) : (List.range n).reverse = (List.range n).map (fun i => n - 1 - i) := by
  rw [List.range_eq_range', List.reverse_range', ← List.range_eq_range']
  apply List.map_congr_left
  intro i _
  show 0 + n - 1 - i = n - 1 - i
  rw [Nat.zero_add]

theorem take_drop_eq_filterMap (l : List α) (a k : Nat) :
    (l.drop a).take k = (List.range k).filterMap fun c => l[a + c]? := by
  induction k with
  | zero => simp
  | succ k ih =>
    rw [List.take_add_one, ih, List.range_succ, List.filterMap_append, List.getElem?_drop]
    cases hk : l[a + k]? <;> simp [hk]

theorem range_filterMap_getElem? (l : List α) : ((List.range l.length).filterMap fun p => l[p]?) = l := by
  simpa using (take_drop_eq_filterMap l 0 l.length).symm

theorem mapIdx_eq_filterMap_range (l : List α) (g : Nat → α → β) :
    l.mapIdx g = (List.range l.length).filterMap fun p => l[p]?.map (g p) := by
  apply List.ext_getElem?
  intro i
  rw [List.getElem?_mapIdx, filterMap_getElem?_of_isSome _ _ (fun p hp => by simp [List.mem_range.1 hp])]
  by_cases hi : i < l.length
  · rw [List.getElem?_range hi]
    rfl
  · have hle := Nat.le_of_not_lt hi
    rw [List.getElem?_eq_none (l := List.range l.length) (by rw [List.length_range]; exact hle), List.getElem?_eq_none hle]
    rfl

theorem flatten_range_mul (R C : Nat) :
    ((List.range R).map fun r => (List.range C).map fun c => r * C + c).flatten = List.range (R * C) := by
  induction R with
  | zero => simp
  | succ R ih =>
    rw [List.range_succ, List.map_append, List.flatten_append, ih, Nat.add_mul, Nat.one_mul, List.range_add]
    simp

theorem flatten_range_sorted (R C off stride : Nat) (hs : C ≤ stride) :
    (((List.range R).map fun r => (List.range C).map fun c => off + r * stride + c).flatten).Pairwise (· < ·) := by
  rw [List.pairwise_flatten]
  constructor
  · intro l hl
    obtain ⟨r, _, rfl⟩ := List.mem_map.1 hl
    rw [List.pairwise_map]
    exact List.Pairwise.imp (fun hab => by omega) List.pairwise_lt_range
  · rw [List.pairwise_map]
    refine List.Pairwise.imp ?_ List.pairwise_lt_range
    intro a b hab x hx y hy
    obtain ⟨c1, hc1, rfl⟩ := List.mem_map.1 hx
    obtain ⟨c2, hc2, rfl⟩ := List.mem_map.1 hy
    have h1 := List.mem_range.1 hc1
    have : (a + 1) * stride ≤ b * stride := Nat.mul_le_mul_right _ hab
    rw [Nat.add_mul] at this
    omega

/-! ### Rows of equal length -/

theorem flatten_length_uniform (C : Nat) (l : List (List α)) (hl : ∀ r ∈ l, r.length = C) :
    l.flatten.length = l.length * C := by
  induction l with
  | nil => simp
  | cons a l ih =>
    have h1 : a.length = C := hl a (by simp)
    have h2 := ih (fun r hr => hl r (by simp [hr]))
    rw [List.flatten_cons, List.length_append, List.length_cons, h1, h2, Nat.add_mul, Nat.one_mul, Nat.add_comm]

theorem length_of_mem_map_eraseIdx {C i : Nat} {g : List (List α)} (hg : ∀ ρ ∈ g, ρ.length = C) (hi : i < C) :
    ∀ ρ ∈ g.map fun ρ => ρ.eraseIdx i, ρ.length = C - 1 := by
  intro ρ hρ
  obtain ⟨ρ0, hρ0, rfl⟩ := List.mem_map.1 hρ
  rw [List.length_eraseIdx_of_lt (by rw [hg ρ0 hρ0]; exact hi), hg ρ0 hρ0]

/-! ### Cutting a block out, putting an element in -/

/-- a list cut after its first `n` entries -/
theorem exists_append_of_le_length {l : List α} {n : Nat} (h : n ≤ l.length) : ∃ A B, l = A ++ B ∧ A.length = n :=
  ⟨l.take n, l.drop n, (List.take_append_drop n l).symm, List.length_take_of_le h⟩

theorem take_mid_drop (l : List α) (s c : Nat) : l = l.take s ++ (l.drop s).take c ++ l.drop (s + c) := by
  rw [List.append_assoc, ← List.drop_drop, List.take_append_drop, List.take_append_drop]

/-- a row of `p + q + 1` cells around its cell `p`: `P` before the hole, the hole `H`, `Q` after it -/
theorem split_hole (ρ : List α) {p q : Nat} (hρ : ρ.length = p + q + 1) :
    ∃ P H Q : List α, ρ = P ++ H ++ Q ∧ P.length = p ∧ H.length = 1 ∧ Q.length = q ∧ ρ.eraseIdx p = P ++ Q := by
  refine ⟨ρ.take p, (ρ.drop p).take 1, ρ.drop (p + 1), take_mid_drop ρ p 1, ?_, ?_, ?_, List.eraseIdx_eq_take_drop_succ ρ p⟩
  · rw [List.length_take, hρ, Nat.add_assoc, Nat.min_eq_left (Nat.le_add_right _ _)]
  · rw [List.length_take, List.length_drop, hρ, Nat.add_assoc, Nat.add_sub_cancel_left,
      Nat.min_eq_left (Nat.le_add_left _ _)]
  · rw [List.length_drop, hρ, Nat.add_right_comm, Nat.add_sub_cancel_left]

theorem insertIdx_eq_take_append_drop (l : List α) (i : Nat) (x : α) (hi : i ≤ l.length) :
    l.insertIdx i x = l.take i ++ x :: l.drop i := by
  induction l generalizing i with
  | nil =>
    have : i = 0 := by simpa using hi
    subst this; simp
  | cons a l ih =>
    cases i with
    | zero => simp
    | succ i => simp [List.insertIdx_succ_cons, ih i (by simpa using hi)]

/-! ### Rearrangements of appended lists -/

theorem perm_append_right_comm (A B C : List α) : (A ++ B ++ C).Perm (A ++ C ++ B) := by
  rw [List.append_assoc, List.append_assoc]
  exact List.Perm.append_left A List.perm_append_comm

theorem ow_perm_take_mid_drop (A M B : List α) : (A ++ B ++ M).Perm (A ++ M ++ B) :=
  perm_append_right_comm A B M

theorem perm_shuffle (A B C D : List α) : (A ++ B ++ (C ++ D)).Perm (A ++ C ++ (B ++ D)) := by
  rw [List.append_assoc, List.append_assoc]
  exact List.Perm.append_left A (List.perm_append_comm_assoc B C D)

theorem eraseIdx_perm (l : List α) (i : Nat) : (l.eraseIdx i ++ (l[i]?).toList).Perm l := by
  by_cases hi : i < l.length
  · rw [List.getElem?_eq_getElem hi, List.eraseIdx_eq_take_drop_succ, Option.toList_some, List.append_assoc]
    conv => rhs; rw [← List.take_append_drop i l, List.drop_eq_getElem_cons hi]
    exact List.Perm.append_left _ List.perm_append_comm
  · rw [List.getElem?_eq_none (Nat.le_of_not_lt hi), List.eraseIdx_of_length_le (Nat.le_of_not_lt hi)]
    exact (List.append_nil l).symm ▸ List.Perm.refl l

/-- removing one row of a list of rows: the remaining cells plus that row are the cells -/
theorem perm_eraseIdx_flatten (l : List (List α)) (i : Nat) (ρ : List α) (hi : l[i]? = some ρ) :
    ((l.eraseIdx i).flatten ++ ρ).Perm l.flatten := by
  have h := (eraseIdx_perm l i).flatten
  rwa [hi, Option.toList_some, List.flatten_append, List.flatten_cons, List.flatten_nil, List.append_nil] at h

/-- removing one column conserves the cells: kept cells plus the column -/
theorem map_eraseIdx_flatten_perm (i : Nat) (rows : List (List α)) :
    ((rows.map fun ρ => ρ.eraseIdx i).flatten ++ rows.filterMap (·[i]?)).Perm rows.flatten := by
  induction rows with
  | nil => exact List.Perm.refl _
  | cons ρ rows ih =>
    rw [filterMap_cons_toList, List.map_cons, List.flatten_cons, List.flatten_cons]
    exact (perm_shuffle _ _ _ _).trans ((eraseIdx_perm ρ i).append ih)

/-- if at every position what is there afterwards plus what left is what was there plus what came in, the same holds overall -/
theorem filterMap_perm_pointwise (l : List α) (after left before came : α → Option β)
    (hp : ∀ p ∈ l, ((after p).toList ++ (left p).toList).Perm ((before p).toList ++ (came p).toList)) :
    (l.filterMap after ++ l.filterMap left).Perm (l.filterMap before ++ l.filterMap came) := by
  induction l with
  | nil => exact List.Perm.refl _
  | cons p l ih =>
    simp only [filterMap_cons_toList]
    have h1 := hp p (List.mem_cons_self ..)
    have h2 := ih (fun q hq => hp q (List.mem_cons_of_mem _ hq))
    exact (perm_shuffle _ _ _ _).trans ((List.Perm.append h1 h2).trans (perm_shuffle _ _ _ _))

/-! ### Permutations of `0..n` -/

/-- pigeonhole: a duplicate-free list of numbers below `n` has at most `n` entries, and exactly `n` only if it is a
    permutation of `0..n`.  Induction on `n`: if `n` occurs in `l`, erase it; either way what is left lies below `n`. -/
theorem nodup_lt_perm_range (n : Nat) (l : List Nat) (hn : l.Nodup) (hb : ∀ a ∈ l, a < n) :
    l.length ≤ n ∧ (l.length = n → l.Perm (List.range n)) := by
  induction n generalizing l with
  | zero =>
    cases List.eq_nil_iff_forall_not_mem.2 fun a ha => Nat.not_lt_zero a (hb a ha)
    exact ⟨Nat.le_refl _, fun _ => List.Perm.refl _⟩
  | succ n ih =>
    by_cases hm : n ∈ l
    · have hp := List.perm_cons_erase hm
      have hb' : ∀ a ∈ l.erase n, a < n := fun a ha =>
        have hm := (hn.mem_erase_iff).1 ha
        Nat.lt_of_le_of_ne (Nat.le_of_lt_succ (hb a hm.2)) hm.1
      obtain ⟨h1, h2⟩ := ih (l.erase n) (hn.erase n) hb'
      have hl : l.length = (l.erase n).length + 1 := by simpa using hp.length_eq
      refine ⟨hl ▸ Nat.succ_le_succ h1, fun he => hp.trans ?_⟩
      rw [List.range_succ]
      exact ((h2 (Nat.succ.inj (hl.symm.trans he))).cons n).trans (List.perm_append_singleton n _).symm
    · have hb' : ∀ a ∈ l, a < n := fun a ha =>
        Nat.lt_of_le_of_ne (Nat.le_of_lt_succ (hb a ha)) fun h => hm (h ▸ ha)
      obtain ⟨h1, _⟩ := ih l hn hb'
      exact ⟨Nat.le_succ_of_le h1, fun he => absurd (Nat.le_trans (Nat.le_of_eq he.symm) h1) (Nat.not_succ_le_self n)⟩

/-- A permutation `p` of `0..n` read with `getD` (whatever the default): its entries are below `n`, … -/
theorem perm_range_getD_lt {p : List Nat} {n : Nat} (hp : p.Perm (List.range n)) (j d : Nat) (hj : j < n) : p.getD j d < n := by
  have hj' : j < p.length := by rw [hp.length_eq, List.length_range]; exact hj
  rw [List.getD_eq_getElem?_getD, List.getElem?_eq_getElem hj']
  exact List.mem_range.1 (hp.mem_iff.1 (List.getElem_mem hj'))

/-- … distinct places hold distinct entries, … -/
theorem perm_range_getD_inj {p : List Nat} {n : Nat} (hp : p.Perm (List.range n)) {j k : Nat} (d d' : Nat) (hj : j < n)
    (hk : k < n) (he : p.getD j d = p.getD k d') : j = k := by
  have hl : p.length = n := by rw [hp.length_eq, List.length_range]
  rw [List.getD_eq_getElem?_getD, List.getD_eq_getElem?_getD, List.getElem?_eq_getElem (hl ▸ hj),
    List.getElem?_eq_getElem (hl ▸ hk)] at he
  exact (List.getElem_inj (hp.nodup_iff.2 List.nodup_range)).1 he

/-- … and every number below `n` is an entry. -/
theorem perm_range_exists_getD {p : List Nat} {n : Nat} (hp : p.Perm (List.range n)) (v d : Nat) (hv : v < n) :
    ∃ k, k < n ∧ p.getD k d = v := by
  obtain ⟨k, hk, he⟩ := List.mem_iff_getElem.1 (hp.mem_iff.2 (List.mem_range.2 hv))
  exact ⟨k, by rw [hp.length_eq, List.length_range] at hk; exact hk, by
    rw [List.getD_eq_getElem?_getD, List.getElem?_eq_getElem hk]; exact he⟩

/-! ### Exchanging two values -/

theorem ite_swap_comm [DecidableEq β] (a b x : β) :
    (if x = a then b else if x = b then a else x) = (if x = b then a else if x = a then b else x) := by
  by_cases h1 : x = a
  · by_cases h2 : x = b
    · rw [if_pos h1, if_pos h2, ← h1, ← h2]
    · rw [if_pos h1, if_neg h2, if_pos h1]
  · by_cases h2 : x = b
    · rw [if_neg h1, if_pos h2, if_pos h2]
    · rw [if_neg h1, if_neg h2, if_neg h2, if_neg h1]

/-- a function of the shape `swapIdx` and `swapCellG` share (exchange `a` and `b`) is an involution, hence injective -/
theorem swap_inj [DecidableEq β] {a b : β} {f : β → β}
    (hf : ∀ x, f x = if x = a then b else if x = b then a else x) {x y : β} (he : f x = f y) : x = y := by
  have inv : ∀ x, f (f x) = x := by
    intro x
    rw [hf (f x), hf x]
    by_cases h1 : x = a
    · rw [if_pos h1]
      by_cases h2 : b = a
      · rw [if_pos h2, h2, h1]
      · rw [if_neg h2, if_pos rfl, h1]
    · rw [if_neg h1]
      by_cases h2 : x = b
      · rw [if_pos h2, if_pos rfl, h2]
      · rw [if_neg h2, if_neg h1, if_neg h2]
  rw [← inv x, ← inv y, he]

end Toodee
