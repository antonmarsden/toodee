import Toodee.Proofs.Index
import Toodee.Proofs.SeqLemmas
/-
  The slice cursors `Rows`/`RowsMut` and `Col`/`ColMut` (Impl/Iter.lean): every operation run on a well-formed cursor returns
  what the ideal sequence `it.abs k` returns, never fails, and leaves a cursor that follows the old one (`Rows.Follows`:
  well-formed, same `cols`, standing for the ideal remainder).  The arithmetic is done once, for `Rows`; a
  `Col` is the `Rows` cursor with `cols = 1` (`Col.asRows`, `Col.spec_of_rows`); `Rows.nextBackMut_eq` is the one place where
  `RowsMut` has a text of its own.  What is used of the ideal operations `Seq.*` on lists alone is in SeqLemmas.
  After each cursor, the cursors the receivers start with: `rows()` (`VW.rows_ok`, `VW.Inv.rows_cursor`, `TD.Inv.rows_cursor`) and
  `col(c)` (`TD.Inv/VW.Inv.col_ok`, `Col.WF_of_grid`, `VW.Inv.col_cursor`, `TD.Inv.col_cursor`, `col_spec`, `col_panic`), and at the end
  `x.col(c)[r]` as one equation (`Col.index_of_abs`, `col_index_eq`).
-/
namespace Toodee

/-- the body of `Rows.step` / `Col.step` / `Flat.step` at an operation that yields an item -/
theorem Seq.item_of_ok {β σ : Type} {x : Res (Option β × σ)} {a : Option β} {b : σ} (h : x = .ok (a, b)) :
    (do let (y, s) ← x; pure (Seq.Out.item y, s) : Res (Seq.Out β × σ)) = .ok (.item a, b) := by
  rw [h]; rfl

namespace Rows

theorem abs_length (it : Rows) (k : Nat) : (it.abs k).length = k := by simp [abs]

theorem abs_getElem? (it : Rows) (k j : Nat) :
    (it.abs k)[j]? = if j < k then some ⟨it.v.off + j * (it.cols + it.skip), it.cols⟩ else none :=
  map_range_getElem? _ k j

theorem mem_abs {it : Rows} {k : Nat} {w : Win} :
    w ∈ it.abs k ↔ ∃ j, j < k ∧ ⟨it.v.off + j * (it.cols + it.skip), it.cols⟩ = w := by
  simp only [abs, List.mem_map, List.mem_range]

theorem abs_zero (it : Rows) : it.abs 0 = [] := rfl

theorem abs_congr {it it' : Rows} (k : Nat) (ho : it'.v.off = it.v.off) (hc : it'.cols = it.cols)
    (hs : it'.skip = it.skip) : it'.abs k = it.abs k := by
  simp [abs, ho, hc, hs]

theorem WF.zero_len {it : Rows} {n : Nat} (h : it.WF 0 n) : it.v.len = 0 := h.len

theorem WF.succ_len {it : Rows} {k n : Nat} (h : it.WF (k + 1) n) :
    it.v.len = k * (it.cols + it.skip) + it.cols := h.len

/-- `Win.empty` puts the offset back to 0 (Rust: `self.v = &[]`), so an exhausted cursor does not sit at the end of the buffer;
    harmless since `abs 0 = []`, and the reason why the `*_spec` lemmas promise nothing about `it'.v.off` -/
theorem WF.empty {it : Rows} {k n : Nat} (h : it.WF k n) : ({ it with v := Win.empty } : Rows).WF 0 n :=
  ⟨fun h0 => absurd rfl h0, rfl, Nat.zero_le _, h.stride_word, h.word⟩

theorem WF.eq_zero_of_cols_zero {it : Rows} {k n : Nat} (h : it.WF k n) (hc : it.cols = 0) : k = 0 :=
  Decidable.byContradiction fun hk => Nat.lt_irrefl 0 (hc ▸ h.cols_pos hk)

theorem WF.mul_lt_len_iff {it : Rows} {k n : Nat} (h : it.WF k n) (j : Nat) :
    j * (it.cols + it.skip) < it.v.len ↔ j < k := by
  cases k with
  | zero => rw [h.zero_len]; exact ⟨fun h => absurd h (Nat.not_lt_zero _), fun h => absurd h (Nat.not_lt_zero _)⟩
  | succ r =>
    have hc : 0 < it.cols := h.cols_pos (Nat.succ_ne_zero r)
    have hcd : it.cols ≤ it.cols + it.skip := Nat.le_add_right _ _
    rw [h.succ_len]
    generalize it.cols + it.skip = d at hcd ⊢
    constructor
    · intro hlt
      apply Nat.lt_of_not_le
      intro hge
      have := Nat.mul_le_mul_right d hge
      rw [Nat.add_mul] at this
      omega
    · intro hlt
      have := Nat.mul_le_mul_right d (Nat.le_of_lt_succ hlt)
      omega

/-- every remaining row has at least one cell: the slice length is a fuel that suffices for `collect` -/
theorem WF.le_len {it : Rows} {k n : Nat} (h : it.WF k n) : k ≤ it.v.len := by
  cases k with
  | zero => exact Nat.zero_le _
  | succ r =>
    have hc := h.cols_pos (Nat.succ_ne_zero r)
    have := Nat.le_mul_of_pos_right r (Nat.add_pos_left hc it.skip)
    rw [h.succ_len]
    omega

/-- the cells of the rows left fit into the buffer -/
theorem WF.mul_cols_le {it : Rows} {k n : Nat} (h : it.WF k n) : k * it.cols ≤ n := by
  cases k with
  | zero => rw [Nat.zero_mul]; exact Nat.zero_le _
  | succ r =>
    have hl := h.succ_len
    have hin := h.inside
    rw [Nat.mul_add] at hl
    rw [Nat.add_mul, Nat.one_mul]
    omega

/-- `j < k` rows fewer, taken off at either end: a slice of the length that is left, starting no further than `j` rows in -/
theorem WF.sub_rows {it : Rows} {k n : Nat} (h : it.WF k n) {j : Nat} (hj : j < k) {o : Nat}
    (ho : o ≤ it.v.off + j * (it.cols + it.skip)) :
    ({ it with v := ⟨o, it.v.len - j * (it.cols + it.skip)⟩ } : Rows).WF (k - j) n := by
  obtain ⟨r, rfl⟩ : ∃ r, k = j + r + 1 := ⟨k - j - 1, by omega⟩
  have hl := h.succ_len
  rw [Nat.add_mul, Nat.add_assoc] at hl
  rw [Nat.add_assoc, Nat.add_sub_cancel_left]
  refine ⟨fun _ => h.cols_pos (Nat.succ_ne_zero _), ?_, ?_, h.stride_word, h.word⟩
  · show it.v.len - _ = r * (it.cols + it.skip) + it.cols
    rw [hl, Nat.add_sub_cancel_left]
  · refine Nat.le_trans (Nat.add_le_add_right ho _) ?_
    rw [Nat.add_assoc, Nat.add_sub_cancel' (hl ▸ Nat.le_add_right _ _)]
    exact h.inside

/-- dropping `j < k` rows at the front (what `nth` does with `split_at`) -/
theorem WF.advance {it : Rows} {k n : Nat} (h : it.WF k n) {j : Nat} (hj : j < k) :
    let it' : Rows := { it with v := ⟨it.v.off + j * (it.cols + it.skip), it.v.len - j * (it.cols + it.skip)⟩ }
    it'.WF (k - j) n ∧ it'.abs (k - j) = (it.abs k).drop j := by
  refine ⟨h.sub_rows hj (Nat.le_refl _), ?_⟩
  rw [abs, abs, map_range_drop]
  exact map_range_congr _ fun i _ => by simp only [Nat.add_mul, Nat.add_assoc, Nat.add_comm (j * _)]

/-- dropping `j < k` rows at the back (what `nth_back` does with `get_unchecked(..len - j*d)`) -/
theorem WF.retreat {it : Rows} {k n : Nat} (h : it.WF k n) {j : Nat} (hj : j < k) :
    let it' : Rows := { it with v := ⟨it.v.off, it.v.len - j * (it.cols + it.skip)⟩ }
    it'.WF (k - j) n ∧ it'.abs (k - j) = (it.abs k).take (k - j) := by
  refine ⟨h.sub_rows hj (Nat.le_add_right _ _), ?_⟩
  rw [abs, abs, map_range_take, Nat.min_eq_left (Nat.sub_le k j)]

/-- the side conditions of `next`/`next_back` on `l` cells that hold more than one row of `c` cells with `s` to skip -/
theorem more_than_a_row {c s l : Nat} (h : c + s < l) : l ≠ 0 ∧ c ≤ l ∧ l - c ≠ 0 ∧ s ≤ l - c := by
  omega

/-! What `next` computes on an empty slice, on exactly one row, on more than one row; then the same for `next_back`. -/

theorem next_of_len_zero {it : Rows} (h : it.v.len = 0) : it.next = .ok (none, it) := by
  rw [next, if_pos h]; rfl

theorem next_of_len_eq {it : Rows} (h : it.v.len = it.cols) (hc : it.cols ≠ 0) :
    it.next = .ok (some ⟨it.v.off, it.cols⟩, { it with v := Win.empty }) := by
  simp [next, Win.splitAt_ok (Nat.le_of_eq h.symm), h, hc]

theorem next_of_lt {it : Rows} (h : it.cols + it.skip < it.v.len) :
    it.next = .ok (some ⟨it.v.off, it.cols⟩,
      { it with v := ⟨it.v.off + (it.cols + it.skip), it.v.len - (it.cols + it.skip)⟩ }) := by
  obtain ⟨h1, h2, h3, h4⟩ := more_than_a_row h
  simp only [next, if_neg h1, Win.splitAt_ok h2, pure_eq, ok_bind, if_neg h3,
    Win.getFrom_ok (w := ⟨it.v.off + it.cols, it.v.len - it.cols⟩) h4,
    Nat.add_assoc, Nat.sub_sub]

theorem nextBack_of_len_zero (m : Mode) {it : Rows} (h : it.v.len = 0) : it.nextBack m = .ok (none, it) := by
  rw [nextBack, if_pos h]; rfl

theorem nextBack_of_len_eq (m : Mode) {it : Rows} (h : it.v.len = it.cols) (hc : it.cols ≠ 0) :
    it.nextBack m = .ok (some ⟨it.v.off, it.cols⟩, { it with v := Win.empty }) := by
  simp [nextBack, Win.splitAt_ok (Nat.zero_le _), h, hc, usub_ok m (Nat.le_refl _)]

theorem nextBack_of_lt (m : Mode) {it : Rows} (h : it.cols + it.skip < it.v.len) :
    it.nextBack m = .ok (some ⟨it.v.off + (it.v.len - it.cols), it.cols⟩,
      { it with v := ⟨it.v.off, it.v.len - (it.cols + it.skip)⟩ }) := by
  obtain ⟨h1, h2, h3, h4⟩ := more_than_a_row h
  have h5 : it.v.len - (it.cols + it.skip) ≤ it.v.len - it.cols := Nat.sub_le_sub_left (Nat.le_add_right _ _) _
  simp only [nextBack, if_neg h1, usub_ok m h2, ok_bind, Win.splitAt_ok (Nat.sub_le _ _), pure_eq, if_neg h3,
    usub_ok m h4, Win.getTo, Nat.sub_sub_self h2, Nat.sub_sub, if_pos h5]

/-- What every stepping operation leaves behind: a cursor `it'` that is well-formed with `k'` rows left, has the `cols`
    of `it`, and stands for `l`.  The `*_spec` lemmas say which item is returned and that the new cursor follows `it` with
    the ideal remainder; they are stated with `head?`/`tail`, `getLast?`/`dropLast`, `[j]?`/`drop (j + 1)`, which is what
    `Seq.next`, `Seq.nextBack`, `Seq.nth` unfold to (`rfl`) and what the users rewrite with. -/
structure Follows (it' it : Rows) (k' n : Nat) (l : List Win) : Prop where
  wf : it'.WF k' n
  cols : it'.cols = it.cols
  abs : it'.abs k' = l

theorem next_spec {it : Rows} {k n : Nat} (h : it.WF k n) :
    ∃ it', it.next = .ok ((it.abs k).head?, it') ∧ it'.Follows it (k - 1) n (it.abs k).tail := by
  cases k with
  | zero => exact ⟨it, next_of_len_zero h.zero_len, h, rfl, rfl⟩
  | succ k =>
    have hl := h.succ_len
    have hc := h.cols_pos (Nat.succ_ne_zero k)
    have hhead : (it.abs (k + 1)).head? = some ⟨it.v.off, it.cols⟩ := by
      rw [List.head?_eq_getElem?, abs_getElem?, if_pos (Nat.succ_pos k), Nat.zero_mul]; rfl
    rw [hhead]
    cases k with
    | zero =>
      rw [Nat.zero_mul, Nat.zero_add] at hl
      exact ⟨_, next_of_len_eq hl (Nat.ne_of_gt hc), h.empty, rfl, rfl⟩
    | succ r =>
      obtain ⟨hwf, habs⟩ := h.advance (j := 1) (Nat.succ_lt_succ (Nat.succ_pos r))
      rw [Nat.one_mul] at hwf habs
      rw [Nat.add_mul, Nat.one_mul] at hl
      exact ⟨_, next_of_lt (by omega), hwf, rfl, habs.trans List.drop_one⟩

theorem nextBack_spec {it : Rows} {k n : Nat} (h : it.WF k n) (m : Mode) :
    ∃ it', it.nextBack m = .ok ((it.abs k).getLast?, it') ∧ it'.Follows it (k - 1) n (it.abs k).dropLast := by
  cases k with
  | zero => exact ⟨it, nextBack_of_len_zero m h.zero_len, h, rfl, rfl⟩
  | succ k =>
    have hl := h.succ_len
    have hc := h.cols_pos (Nat.succ_ne_zero k)
    have hlast : (it.abs (k + 1)).getLast? = some ⟨it.v.off + (it.v.len - it.cols), it.cols⟩ := by
      rw [List.getLast?_eq_getElem?, abs_length, Nat.add_sub_cancel, abs_getElem?, if_pos (Nat.lt_succ_self k), hl,
        Nat.add_sub_cancel]
    rw [hlast]
    cases k with
    | zero =>
      rw [Nat.zero_mul, Nat.zero_add] at hl
      rw [hl, Nat.sub_self]
      exact ⟨_, nextBack_of_len_eq m hl (Nat.ne_of_gt hc), h.empty, rfl, rfl⟩
    | succ r =>
      obtain ⟨hwf, habs⟩ := h.retreat (j := 1) (Nat.succ_lt_succ (Nat.succ_pos r))
      rw [Nat.one_mul] at hwf habs
      rw [Nat.add_mul, Nat.one_mul] at hl
      exact ⟨_, nextBack_of_lt m (by omega), hwf, rfl, habs.trans (by rw [List.dropLast_eq_take, abs_length])⟩

/-- `RowsMut::next_back` as written (it computes the split point a second time) returns what the shared text `Rows.nextBack`
    returns, on every cursor -/
theorem nextBackMut_eq (m : Mode) (it : Rows) : it.nextBackMut m = it.nextBack m := by
  unfold nextBackMut nextBack
  by_cases h0 : it.v.len = 0
  · rw [if_pos h0, if_pos h0]
  · rw [if_neg h0, if_neg h0]
    dsimp only
    -- the second `usub m tmpLen cols` of the mutable variant is the `mid` that `split_at` made the length of `fst`
    cases hm : usub m it.v.len it.cols with
    | error e => rw [err_bind, err_bind]
    | ok mid =>
      rw [ok_bind, ok_bind]
      by_cases hle : mid ≤ it.v.len
      · rw [Win.splitAt_ok hle]; simp only [ok_bind]
      · rw [Win.splitAt, if_neg hle, throw_eq, err_bind, err_bind]

theorem last_spec {it : Rows} {k n : Nat} (h : it.WF k n) (m : Mode) :
    it.last m = .ok (it.abs k).getLast? := by
  obtain ⟨it', h1, -⟩ := nextBack_spec h m
  rw [last, h1]; rfl

/-- the guard of `nth`/`nth_back`: `j` rows do not fit (or `j * (cols + skip)` wraps) iff `k ≤ j` -/
theorem WF.guard_iff {it : Rows} {k n : Nat} (h : it.WF k n) (j : Nat) :
    ((omul j (it.cols + it.skip)).1 ≥ it.v.len ∨ (omul j (it.cols + it.skip)).2 = true) ↔ k ≤ j := by
  have hm := h.mul_lt_len_iff j
  by_cases ho : WORD ≤ j * (it.cols + it.skip)
  · have hin := h.inside
    have hw := h.word
    rw [omul_of_ge ho]
    exact ⟨fun _ => by omega, fun _ => Or.inr rfl⟩
  · rw [omul_of_lt (Nat.lt_of_not_le ho)]
    simp only [ge_iff_le, Bool.false_eq_true, or_false]
    omega

/-- `nth(j)` with `j ≥ k`: everything is consumed (also when `j * (cols+skip)` wraps) -/
theorem nth_ge {it : Rows} {k n : Nat} (h : it.WF k n) (m : Mode) {j : Nat} (hj : k ≤ j) :
    it.nth m j = .ok (none, { it with v := Win.empty }) := by
  simp only [nth, uadd_ok m h.stride_word, ok_bind, if_pos ((h.guard_iff j).2 hj)]
  exact next_of_len_zero rfl

theorem nth_lt {it : Rows} {k n : Nat} (h : it.WF k n) (m : Mode) {j : Nat} (hj : j < k) :
    it.nth m j = next { it with v := ⟨it.v.off + j * (it.cols + it.skip), it.v.len - j * (it.cols + it.skip)⟩ } := by
  have hlt : j * (it.cols + it.skip) < it.v.len := (h.mul_lt_len_iff j).2 hj
  have hW : j * (it.cols + it.skip) < WORD := by have := h.inside; have := h.word; omega
  simp only [nth, uadd_ok m h.stride_word, ok_bind, omul_of_lt hW, Win.splitAt_ok (Nat.le_of_lt hlt)]
  exact if_neg fun hc => hc.elim (Nat.not_le.2 hlt) Bool.noConfusion

theorem nth_spec {it : Rows} {k n : Nat} (h : it.WF k n) (m : Mode) (j : Nat) :
    ∃ it', it.nth m j = .ok ((it.abs k)[j]?, it') ∧ it'.Follows it (k - (j + 1)) n ((it.abs k).drop (j + 1)) := by
  by_cases hj : j < k
  · obtain ⟨hwf, habs⟩ := h.advance hj
    obtain ⟨it', h1, h2, h3, h5⟩ := next_spec hwf
    rw [habs, List.head?_drop] at h1
    rw [habs, List.tail_drop] at h5
    exact ⟨it', (nth_lt h m hj).trans h1, Nat.sub_sub k j 1 ▸ h2, h3, Nat.sub_sub k j 1 ▸ h5⟩
  · have hk : k - (j + 1) = 0 := by omega
    rw [hk, abs_getElem?, if_neg hj, List.drop_eq_nil_of_le (by rw [abs_length]; omega)]
    exact ⟨_, nth_ge h m (Nat.le_of_not_lt hj), h.empty, rfl, rfl⟩

theorem nthBack_ge {it : Rows} {k n : Nat} (h : it.WF k n) (m : Mode) {j : Nat} (hj : k ≤ j) :
    it.nthBack m j = .ok (none, { it with v := Win.empty }) := by
  simp only [nthBack, uadd_ok m h.stride_word, ok_bind, if_pos ((h.guard_iff j).2 hj)]
  exact nextBack_of_len_zero m rfl

theorem nthBack_lt {it : Rows} {k n : Nat} (h : it.WF k n) (m : Mode) {j : Nat} (hj : j < k) :
    it.nthBack m j = nextBack m { it with v := ⟨it.v.off, it.v.len - j * (it.cols + it.skip)⟩ } := by
  have hlt : j * (it.cols + it.skip) < it.v.len := (h.mul_lt_len_iff j).2 hj
  have hW : j * (it.cols + it.skip) < WORD := by have := h.inside; have := h.word; omega
  simp only [nthBack, uadd_ok m h.stride_word, ok_bind, omul_of_lt hW, usub_ok m (Nat.le_of_lt hlt),
    Win.getTo_ok (w := it.v) (Nat.sub_le _ _)]
  exact if_neg fun hc => hc.elim (Nat.not_le.2 hlt) Bool.noConfusion

/-- stated with `Seq.nthBack`, which spells out the two cases once: the item is `l[len - 1 - j]?` only when `j < len`, and
    `len - (j + 1)` items are kept -/
theorem nthBack_spec {it : Rows} {k n : Nat} (h : it.WF k n) (m : Mode) (j : Nat) :
    ∃ it', it.nthBack m j = .ok ((Seq.nthBack (it.abs k) j).1, it') ∧
      it'.Follows it (k - (j + 1)) n (Seq.nthBack (it.abs k) j).2 := by
  rw [Seq.nthBack_eq_nextBack_take, abs_length]
  by_cases hj : j < k
  · obtain ⟨hwf, habs⟩ := h.retreat hj
    obtain ⟨it', h1, h2, h3, h5⟩ := nextBack_spec hwf m
    rw [habs] at h1 h5
    exact ⟨it', (nthBack_lt h m hj).trans h1, Nat.sub_sub k j 1 ▸ h2, h3, Nat.sub_sub k j 1 ▸ h5⟩
  · have hk : k - (j + 1) = 0 := by omega
    rw [hk, Nat.sub_eq_zero_of_le (Nat.le_of_not_lt hj)]
    exact ⟨_, nthBack_ge h m (Nat.le_of_not_lt hj), h.empty, rfl, rfl⟩

/-- a slice of `r` strides `c + s` and one more row of `c` cells holds `r + 1` rows, as `size_hint` counts them -/
theorem rows_of_len {r c s : Nat} (hc : 0 < c) :
    (r * (c + s) + c) / (c + s) + (r * (c + s) + c) % (c + s) / c = r + 1 := by
  rw [Nat.mul_comm r, Nat.mul_add_div (Nat.add_pos_left hc s), Nat.mul_add_mod]
  by_cases hs : s = 0
  · rw [hs, Nat.add_zero, Nat.div_self hc, Nat.mod_self, Nat.zero_div]
  · rw [Nat.div_eq_of_lt (by omega), Nat.mod_eq_of_lt (by omega), Nat.div_self hc, Nat.add_zero]

theorem sizeHint_spec {it : Rows} {k n : Nat} (h : it.WF k n) (m : Mode) : it.sizeHint m = .ok k := by
  by_cases hc : it.cols = 0
  · have hk := h.eq_zero_of_cols_zero hc
    rw [sizeHint, if_pos hc, hk]; rfl
  · have hd : it.cols + it.skip ≠ 0 := by omega
    simp only [sizeHint, if_neg hc, uadd_ok m h.stride_word, ok_bind, pure_eq, udiv_ok hd, urem_ok hd]
    cases k with
    | zero => rw [h.zero_len, Nat.zero_div, Nat.zero_mod, Nat.zero_div]
    | succ r => rw [h.succ_len, rows_of_len (Nat.pos_of_ne_zero hc)]

/-- `fold` / `for_each` / `collect` -/
theorem collect_spec {it : Rows} {k n : Nat} (h : it.WF k n) (fuel : Nat) (hf : k < fuel) :
    it.collect fuel = .ok (it.abs k) := by
  induction fuel generalizing it k with
  | zero => omega
  | succ fuel ih =>
    obtain ⟨it', h1, h2, -, h5⟩ := next_spec h
    rw [collect, h1, ok_bind]
    cases hl : it.abs k with
    | nil => rfl
    | cons w l =>
      have hk : k ≠ 0 := fun hk => by rw [hk, abs_zero] at hl; cases hl
      rw [hl] at h5
      simp only [List.head?_cons, ih h2 (by omega), h5, ok_bind]; rfl

/-- the fuel `len + 2` that every `for`/`fold` over a row cursor is given suffices: `k` rows need at least `k` cells -/
theorem collect_all {it : Rows} {k n : Nat} (h : it.WF k n) : it.collect (it.v.len + 2) = .ok (it.abs k) :=
  collect_spec h _ (Nat.lt_succ_of_le (Nat.le_succ_of_le h.le_len))

/-- `rfold` -/
theorem collectBack_spec {it : Rows} {k n : Nat} (h : it.WF k n) (m : Mode) (fuel : Nat) (hf : k < fuel) :
    it.collectBack m fuel = .ok (it.abs k).reverse := by
  induction fuel generalizing it k with
  | zero => omega
  | succ fuel ih =>
    obtain ⟨it', h1, h2, -, h5⟩ := nextBack_spec h m
    rw [collectBack, h1, ok_bind]
    cases hl : (it.abs k).getLast? with
    | none => rw [List.getLast?_eq_none_iff.1 hl]; rfl
    | some w =>
      obtain ⟨l, hl⟩ := List.getLast?_eq_some_iff.1 hl
      have hk : k ≠ 0 := fun hk => by rw [hk, abs_zero] at hl; cases l <;> cases hl
      rw [hl] at h5 ⊢
      simp only [ih h2 (by omega), h5, ok_bind, List.dropLast_concat, List.reverse_append]; rfl

theorem step_spec {it : Rows} {k n : Nat} (h : it.WF k n) (m : Mode) (o : Seq.Op) :
    ∃ it' k', it.step m o = .ok ((Seq.step (it.abs k) o).1, it') ∧ it'.Follows it k' n (Seq.step (it.abs k) o).2 := by
  cases o with
  | next => exact (next_spec h).imp fun _ h => ⟨_, Seq.item_of_ok h.1, h.2⟩
  | nextBack => exact (nextBack_spec h m).imp fun _ h => ⟨_, Seq.item_of_ok h.1, h.2⟩
  | nth j => exact (nth_spec h m j).imp fun _ h => ⟨_, Seq.item_of_ok h.1, h.2⟩
  | nthBack j => exact (nthBack_spec h m j).imp fun _ h => ⟨_, Seq.item_of_ok h.1, h.2⟩
  | len =>
    refine ⟨it, k, ?_, h, rfl, rfl⟩
    show (it.sizeHint m >>= _) = _
    rw [sizeHint_spec h m]
    exact congrArg (fun x => Except.ok (Seq.Out.num x, it)) (abs_length it k).symm

theorem run_spec {it : Rows} {k n : Nat} (h : it.WF k n) (m : Mode) (w : List Seq.Op) :
    ∃ it' k', it.run m w = .ok ((Seq.run (it.abs k) w).1, it') ∧ it'.Follows it k' n (Seq.run (it.abs k) w).2 := by
  induction w generalizing it k with
  | nil => exact ⟨it, k, rfl, h, rfl, rfl⟩
  | cons o os ih =>
    obtain ⟨it1, k1, h1, h2, h3, h5⟩ := step_spec h m o
    obtain ⟨it2, k2, g1, g2, g3, g5⟩ := ih h2
    refine ⟨it2, k2, ?_, g2, g3.trans h3, ?_⟩
    · simp only [run, h1, ok_bind, g1, pure_eq, Seq.run, h5]
    · simp only [Seq.run, g5, h5]

theorem abs_pairwise_disjoint (it : Rows) (k : Nat) :
    (it.abs k).Pairwise Win.Disjoint := by
  rw [abs, List.pairwise_map]
  refine List.Pairwise.imp ?_ List.pairwise_lt_range
  intro a b hab
  have := Nat.mul_le_mul_right (it.cols + it.skip) (Nat.succ_le_of_lt hab)
  rw [Nat.succ_mul] at this
  exact Or.inl (by show it.v.off + _ + it.cols ≤ it.v.off + _; omega)

theorem WF.abs_inside {it : Rows} {k n : Nat} (h : it.WF k n) :
    ∀ w ∈ it.abs k, w.off + w.len ≤ n ∧ w.len = it.cols := by
  intro w hw
  obtain ⟨j, hj, rfl⟩ := mem_abs.1 hw
  obtain ⟨r, rfl⟩ : ∃ r, k = r + 1 := ⟨k - 1, by omega⟩
  have hl := h.succ_len
  have hin := h.inside
  have := Nat.mul_le_mul_right (it.cols + it.skip) (Nat.le_of_lt_succ hj)
  exact ⟨by show it.v.off + _ + it.cols ≤ n; omega, rfl⟩

end Rows

theorem VW.rows_ok (m : Mode) {v : VW} (hs : v.numCols ≤ v.stride) :
    v.rows m = .ok ⟨v.data, v.numCols, v.stride - v.numCols⟩ := by
  rw [VW.rows, usub_ok m hs]; rfl

/-- the state `rows()` / `rows_mut()` of a view returns (`VW.rows_ok`) is well-formed and stands for the view's row windows -/
theorem VW.Inv.rows_cursor {v : VW} {n : Nat} (h : v.Inv n) :
    (⟨v.data, v.numCols, v.stride - v.numCols⟩ : Rows).WF v.numRows n ∧
    (⟨v.data, v.numCols, v.stride - v.numCols⟩ : Rows).abs v.numRows = (List.range v.numRows).map v.rowWin := by
  have hcs : v.numCols + (v.stride - v.numCols) = v.stride := Nat.add_sub_cancel' h.stride
  refine ⟨⟨h.cols_pos_of_ne_zero, ?_, h.inside, ?_, h.word⟩, ?_⟩
  · simp only [hcs]; exact h.len
  · simp only [hcs]; exact h.stride_word
  · simp only [Rows.abs, hcs]; rfl

/-- `TooDee::rows` / `rows_mut`: the row cursor of the array seen as a view of its own buffer -/
theorem TD.Inv.rows_cursor {α : Type} {t : TD α} (h : t.Inv) :
    t.rows.WF t.numRows t.data.length ∧
    t.rows.abs t.numRows = (List.range t.numRows).map fun r => ⟨t.pos 0 r, t.numCols⟩ := by
  have h' := h.asView.rows_cursor
  rw [show t.asView.stride - t.asView.numCols = 0 from Nat.sub_self _] at h'
  exact ⟨h'.1, h'.2.trans (List.map_congr_left fun r _ => congrArg (Win.mk · _) (t.asView_pos 0 r))⟩

namespace Col

theorem abs_length (it : Col) (k : Nat) : (it.abs k).length = k := by simp [abs]

theorem abs_getElem? (it : Col) (k j : Nat) :
    (it.abs k)[j]? = if j < k then some (it.v.off + j * (1 + it.skip)) else none := by
  simp only [abs, map_range_getElem?]

theorem mem_abs {it : Col} {k : Nat} {p : Nat} :
    p ∈ it.abs k ↔ ∃ j, j < k ∧ it.v.off + j * (1 + it.skip) = p := by
  simp only [abs, List.mem_map, List.mem_range]

theorem abs_zero (it : Col) : it.abs 0 = [] := by simp [abs]

theorem abs_congr {it it' : Col} (k : Nat) (ho : it'.v.off = it.v.off) (hs : it'.skip = it.skip) :
    it'.abs k = it.abs k := by
  simp [abs, ho, hs]

/-- A column cursor runs the same arithmetic as the row cursor with `cols = 1` over the same slice; its items are the
    offsets of that cursor's one-cell windows.  The lemmas about `next`, `next_back`, `nth`, `nth_back`, `size_hint` below are
    the `Rows` lemmas read through this (`spec_of_rows`). -/
abbrev asRows (it : Col) : Rows := ⟨it.v, 1, it.skip⟩

/-- the result of a `Rows` operation on `it.asRows`, read as the result of the `Col` operation on `it` -/
def resOfRows (p : Option Win × Rows) : Option Nat × Col := (p.1.map Win.off, ⟨p.2.v, p.2.skip⟩)

theorem WF_asRows {it : Col} {k n : Nat} : it.asRows.WF k n ↔ it.WF k n :=
  ⟨fun h => ⟨h.len, h.inside, h.stride_word, h.word⟩,
   fun h => ⟨fun _ => Nat.one_pos, h.len, h.inside, h.stride_word, h.word⟩⟩

theorem abs_asRows (it : Col) (k : Nat) : it.abs k = (it.asRows.abs k).map Win.off := by
  rw [abs, Rows.abs, List.map_map]; rfl

theorem next_eq (it : Col) : it.next = it.asRows.next >>= fun p => pure (resOfRows p) := by
  obtain ⟨⟨off, len⟩, skip⟩ := it
  simp only [next, Rows.next, Win.splitAt]
  by_cases h0 : len = 0
  · simp only [h0, if_true]; rfl
  · simp only [h0, if_false, Nat.succ_le_of_lt (Nat.pos_of_ne_zero h0), if_true, pure_eq, ok_bind]
    split
    · rfl
    · cases Win.getFrom ⟨off + 1, len - 1⟩ skip <;> rfl

theorem nextBack_eq (m : Mode) (it : Col) : it.nextBack m = it.asRows.nextBack m >>= fun p => pure (resOfRows p) := by
  obtain ⟨⟨off, len⟩, skip⟩ := it
  simp only [nextBack, Rows.nextBack, Win.splitAt]
  by_cases h0 : len = 0
  · simp only [h0, if_true]; rfl
  · have h1 : 1 ≤ len := Nat.pos_of_ne_zero h0
    simp only [h0, if_false, usub_ok m h1, Nat.sub_le, if_true, pure_eq, ok_bind, Nat.sub_sub_self h1]
    split
    · rfl
    · cases usub m (len - 1) skip with
      | error e => rfl
      | ok e =>
        simp only [ok_bind]
        cases Win.getTo ⟨off, len - 1⟩ e <;> rfl

theorem nth_eq (m : Mode) (it : Col) (j : Nat) : it.nth m j = it.asRows.nth m j >>= fun p => pure (resOfRows p) := by
  simp only [nth, Rows.nth, next_eq]
  cases uadd m 1 it.skip with
  | error e => rfl
  | ok d =>
    simp only [ok_bind]
    split
    · rfl
    · cases it.v.splitAt (omul j d).1 <;> rfl

theorem nthBack_eq (m : Mode) (it : Col) (j : Nat) :
    it.nthBack m j = it.asRows.nthBack m j >>= fun p => pure (resOfRows p) := by
  simp only [nthBack, Rows.nthBack, nextBack_eq]
  cases uadd m 1 it.skip with
  | error e => rfl
  | ok d =>
    simp only [ok_bind]
    split
    · rfl
    · cases usub m it.v.len (omul j d).1 with
      | error e => rfl
      | ok e =>
        simp only [ok_bind]
        cases it.v.getTo e <;> rfl

/-- what a `Rows` lemma says about `it.asRows`, read for `it` -/
theorem spec_of_rows {it : Col} {op : Res (Option Nat × Col)} {rop : Res (Option Win × Rows)}
    (heq : op = rop >>= fun p => pure (resOfRows p)) {x : Option Win} {l : List Win} {k' n : Nat}
    (h : ∃ r, rop = .ok (x, r) ∧ r.Follows it.asRows k' n l) :
    ∃ it', op = .ok (x.map Win.off, it') ∧ it'.WF k' n ∧ it'.abs k' = l.map Win.off := by
  obtain ⟨⟨v, c, s⟩, h1, h2, rfl, h5⟩ := h
  exact ⟨⟨v, s⟩, by rw [heq, h1]; rfl, WF_asRows.1 h2, by rw [abs_asRows, h5]⟩

theorem WF.mul_lt_len_iff {it : Col} {k n : Nat} (h : it.WF k n) (j : Nat) :
    j * (1 + it.skip) < it.v.len ↔ j < k :=
  (WF_asRows.2 h).mul_lt_len_iff j

theorem WF.le_len {it : Col} {k n : Nat} (h : it.WF k n) : k ≤ it.v.len :=
  (WF_asRows.2 h).le_len

theorem WF.advance {it : Col} {k n : Nat} (h : it.WF k n) {j : Nat} (hj : j < k) :
    let it' : Col := { it with v := ⟨it.v.off + j * (1 + it.skip), it.v.len - j * (1 + it.skip)⟩ }
    it'.WF (k - j) n ∧ it'.abs (k - j) = (it.abs k).drop j := by
  obtain ⟨h1, h2⟩ := (WF_asRows.2 h).advance hj
  exact ⟨WF_asRows.1 h1, by rw [abs_asRows, abs_asRows, ← List.map_drop, ← h2]⟩

theorem next_spec {it : Col} {k n : Nat} (h : it.WF k n) :
    ∃ it', it.next = .ok ((it.abs k).head?, it') ∧ it'.WF (k - 1) n ∧ it'.abs (k - 1) = (it.abs k).tail := by
  rw [abs_asRows, List.head?_map, ← List.map_tail]
  exact spec_of_rows (next_eq it) (Rows.next_spec (WF_asRows.2 h))

theorem nextBack_spec {it : Col} {k n : Nat} (h : it.WF k n) (m : Mode) :
    ∃ it', it.nextBack m = .ok ((it.abs k).getLast?, it') ∧ it'.WF (k - 1) n ∧
      it'.abs (k - 1) = (it.abs k).dropLast := by
  rw [abs_asRows, List.getLast?_map, ← List.map_dropLast]
  exact spec_of_rows (nextBack_eq m it) (Rows.nextBack_spec (WF_asRows.2 h) m)

theorem last_spec {it : Col} {k n : Nat} (h : it.WF k n) (m : Mode) :
    it.last m = .ok (it.abs k).getLast? := by
  obtain ⟨it', h1, -⟩ := nextBack_spec h m
  rw [last, h1]; rfl

theorem nth_spec {it : Col} {k n : Nat} (h : it.WF k n) (m : Mode) (j : Nat) :
    ∃ it', it.nth m j = .ok ((it.abs k)[j]?, it') ∧ it'.WF (k - (j + 1)) n ∧
      it'.abs (k - (j + 1)) = (it.abs k).drop (j + 1) := by
  rw [abs_asRows, List.getElem?_map, ← List.map_drop]
  exact spec_of_rows (nth_eq m it j) (Rows.nth_spec (WF_asRows.2 h) m j)

theorem nthBack_spec {it : Col} {k n : Nat} (h : it.WF k n) (m : Mode) (j : Nat) :
    ∃ it', it.nthBack m j = .ok ((Seq.nthBack (it.abs k) j).1, it') ∧
      it'.WF (k - (j + 1)) n ∧ it'.abs (k - (j + 1)) = (Seq.nthBack (it.abs k) j).2 := by
  rw [abs_asRows, Seq.nthBack_map]
  exact spec_of_rows (nthBack_eq m it j) (Rows.nthBack_spec (WF_asRows.2 h) m j)

/-- `size_hint` / `len` / `count` -/
theorem sizeHint_eq (m : Mode) (it : Col) : it.sizeHint m = it.asRows.sizeHint m := by
  simp [sizeHint, Rows.sizeHint, Nat.div_one]

theorem sizeHint_spec {it : Col} {k n : Nat} (h : it.WF k n) (m : Mode) : it.sizeHint m = .ok k :=
  (sizeHint_eq m it).trans (Rows.sizeHint_spec (WF_asRows.2 h) m)

/-- `col[i]` with `i < k` -/
theorem index_ok {it : Col} {k n : Nat} (h : it.WF k n) (m : Mode) {i : Nat} (hi : i < k) :
    it.index m i = .ok (it.v.off + i * (1 + it.skip)) := by
  have hlt : i * (1 + it.skip) < it.v.len := (h.mul_lt_len_iff i).2 hi
  have hin := h.inside
  have hw := h.word
  have hW : i * (1 + it.skip) < WORD := by omega
  simp [index, uadd_ok m h.stride_word, omul_of_lt hW, Win.index_ok hlt]

/-- `col[i]` with `i ≥ k` panics — also when `i * (1+skip)` wraps -/
theorem index_panic {it : Col} {k n : Nat} (h : it.WF k n) (m : Mode) {i : Nat} (hi : k ≤ i) :
    it.index m i = .error .panic := by
  have hnl : ¬ i * (1 + it.skip) < it.v.len := fun hlt => by
    have := (h.mul_lt_len_iff i).1 hlt; omega
  by_cases ho : WORD ≤ i * (1 + it.skip)
  · simp [index, uadd_ok m h.stride_word, omul_of_ge ho]
  · have hW : i * (1 + it.skip) < WORD := by omega
    simp [index, uadd_ok m h.stride_word, omul_of_lt hW, Win.index_panic (Nat.le_of_not_lt hnl)]

/-- `col[r]` of a cursor that stands for `g 0, g 1, …`: its `r`-th cell, or a panic -/
theorem index_of_abs {it : Col} {R n : Nat} {g : Nat → Nat} (h : it.WF R n) (m : Mode)
    (habs : it.abs R = (List.range R).map g) (r : Nat) :
    it.index m r = if r < R then .ok (g r) else .error .panic := by
  by_cases hr : r < R
  · have hg := abs_getElem? it R r
    rw [habs, List.getElem?_map, List.getElem?_range hr, if_pos hr] at hg
    rw [if_pos hr, index_ok h m hr, Option.some.inj hg]
  · rw [if_neg hr, index_panic h m (Nat.le_of_not_lt hr)]

/-! `collect`, `collectBack`, `step`, `run` are proved as for `Rows`, from the `Col` lemmas above. -/

theorem collect_spec {it : Col} {k n : Nat} (h : it.WF k n) (fuel : Nat) (hf : k < fuel) :
    it.collect fuel = .ok (it.abs k) := by
  induction fuel generalizing it k with
  | zero => omega
  | succ fuel ih =>
    obtain ⟨it', h1, h2, h4⟩ := next_spec h
    rw [collect, h1, ok_bind]
    cases hl : it.abs k with
    | nil => rfl
    | cons p l =>
      have hk : k ≠ 0 := fun hk => by rw [hk, abs_zero] at hl; cases hl
      rw [hl] at h4
      simp only [List.head?_cons, ih h2 (by omega), h4, ok_bind]; rfl

theorem collect_all {it : Col} {k n : Nat} (h : it.WF k n) : it.collect (it.v.len + 2) = .ok (it.abs k) :=
  collect_spec h _ (Nat.lt_succ_of_le (Nat.le_succ_of_le h.le_len))

theorem collectBack_spec {it : Col} {k n : Nat} (h : it.WF k n) (m : Mode) (fuel : Nat) (hf : k < fuel) :
    it.collectBack m fuel = .ok (it.abs k).reverse := by
  induction fuel generalizing it k with
  | zero => omega
  | succ fuel ih =>
    obtain ⟨it', h1, h2, h4⟩ := nextBack_spec h m
    rw [collectBack, h1, ok_bind]
    cases hl : (it.abs k).getLast? with
    | none => rw [List.getLast?_eq_none_iff.1 hl]; rfl
    | some p =>
      obtain ⟨l, hl⟩ := List.getLast?_eq_some_iff.1 hl
      have hk : k ≠ 0 := fun hk => by rw [hk, abs_zero] at hl; cases l <;> cases hl
      rw [hl] at h4 ⊢
      simp only [ih h2 (by omega), h4, ok_bind, List.dropLast_concat, List.reverse_append]; rfl

theorem step_spec {it : Col} {k n : Nat} (h : it.WF k n) (m : Mode) (o : Seq.Op) :
    ∃ it' k', it.step m o = .ok ((Seq.step (it.abs k) o).1, it') ∧ it'.WF k' n ∧
      it'.abs k' = (Seq.step (it.abs k) o).2 := by
  cases o with
  | next => exact (next_spec h).imp fun _ h => ⟨_, Seq.item_of_ok h.1, h.2⟩
  | nextBack => exact (nextBack_spec h m).imp fun _ h => ⟨_, Seq.item_of_ok h.1, h.2⟩
  | nth j => exact (nth_spec h m j).imp fun _ h => ⟨_, Seq.item_of_ok h.1, h.2⟩
  | nthBack j => exact (nthBack_spec h m j).imp fun _ h => ⟨_, Seq.item_of_ok h.1, h.2⟩
  | len =>
    refine ⟨it, k, ?_, h, rfl⟩
    show (it.sizeHint m >>= _) = _
    rw [sizeHint_spec h m]
    exact congrArg (fun x => Except.ok (Seq.Out.num x, it)) (abs_length it k).symm

theorem run_spec {it : Col} {k n : Nat} (h : it.WF k n) (m : Mode) (w : List Seq.Op) :
    ∃ it' k', it.run m w = .ok ((Seq.run (it.abs k) w).1, it') ∧ it'.WF k' n ∧
      it'.abs k' = (Seq.run (it.abs k) w).2 := by
  induction w generalizing it k with
  | nil => exact ⟨it, k, rfl, h, rfl⟩
  | cons o os ih =>
    obtain ⟨it1, k1, h1, h2, h5⟩ := step_spec h m o
    obtain ⟨it2, k2, g1, g2, g5⟩ := ih h2
    refine ⟨it2, k2, ?_, g2, ?_⟩
    · simp only [run, h1, ok_bind, g1, pure_eq, Seq.run, h5]
    · simp only [Seq.run, g5, h5]

theorem abs_nodup (it : Col) (k : Nat) : (it.abs k).Nodup := by
  rw [abs, List.Nodup, List.pairwise_map]
  refine List.Pairwise.imp ?_ List.pairwise_lt_range
  intro a b hab
  have : (a + 1) * (1 + it.skip) ≤ b * (1 + it.skip) := Nat.mul_le_mul_right _ hab
  rw [Nat.add_mul] at this
  omega

theorem WF.abs_inside {it : Col} {k n : Nat} (h : it.WF k n) : ∀ p ∈ it.abs k, p < n := by
  intro p hp
  rw [abs_asRows] at hp
  obtain ⟨w, hw, rfl⟩ := List.mem_map.1 hp
  obtain ⟨h1, h2⟩ := Rows.WF.abs_inside (WF_asRows.2 h) w hw
  have h2 : w.len = 1 := h2
  omega

end Col

/-- the cursor over column `c` of a grid of `R` rows of `cols` cells, `stride` apart, that starts at `off` -/
theorem Col.WF_of_grid {off c cols stride R n : Nat} (hc : c < cols) (hs : cols ≤ stride) (hR : R ≠ 0)
    (hin : off + ((R - 1) * stride + cols) ≤ n) (hsw : stride < WORD) (hw : n < WORD) :
    (⟨⟨off + c, (R - 1) * stride + 1⟩, stride - 1⟩ : Col).WF R n ∧
    (⟨⟨off + c, (R - 1) * stride + 1⟩, stride - 1⟩ : Col).abs R = (List.range R).map fun r => off + r * stride + c := by
  have hskip : 1 + (stride - 1) = stride := by omega
  refine ⟨⟨?_, ?_, ?_, hw⟩, ?_⟩
  · simp only [hskip, if_neg hR]
  · simp only; omega
  · simp only [hskip]; exact hsw
  · simp only [Col.abs, hskip]
    exact map_range_congr _ fun i _ => by omega

/-- What `col` computes; the `rw` chains follow the program line by line.  The owned `col()` (toodee.rs) finds the end of the range
    from `data.len()`, the view's `get_col_params` (view.rs) from `(num_rows - 1) * stride`: two different computations of the
    same cursor, which is why `TD.col` is not `t.asView.col` by `rfl` and there are two equations. -/
theorem TD.Inv.col_ok {α : Type} {t : TD α} (h : t.Inv) (m : Mode) {c : Nat} (hc : c < t.numCols) :
    t.col m c = .ok ⟨⟨c, (t.numRows - 1) * t.numCols + 1⟩, t.numCols - 1⟩ := by
  have hw := h.word
  have hl : t.data.length = (t.numRows - 1) * t.numCols + t.numCols := by
    rw [pred_mul_add _ (h.rows_pos hc), h.len, Nat.mul_comm]
  generalize (t.numRows - 1) * t.numCols = a at hl ⊢
  -- `b1`: `… + col`, `b2`: `… + 1` (the end of the range), `b3`: `num_cols - 1` (skip), `b4`: the range `col..end` fits
  obtain ⟨b1, b2, b3, b4⟩ : a + c < WORD ∧ a + c + 1 < WORD ∧ 1 ≤ t.numCols ∧ (c ≤ a + c + 1 ∧ a + c + 1 ≤ a + t.numCols) := by
    omega
  unfold TD.col TD.colParams
  dsimp only
  rw [if_neg (fun h => h hc), hl, usub_ok m (Nat.le_add_left _ a), Nat.add_sub_cancel, ok_bind, uadd_ok m b1, ok_bind,
    uadd_ok m b2, ok_bind, Win.getRange_ok (w := t.win) b4.1 (hl.symm ▸ b4.2 : a + c + 1 ≤ t.data.length), ok_bind, usub_ok m b3, ok_bind, pure_eq,
    ok_bind, TD.win, Nat.zero_add, Nat.add_right_comm, Nat.add_sub_cancel]
  rfl

theorem VW.Inv.col_ok {v : VW} {n : Nat} (h : v.Inv n) (m : Mode) {c : Nat} (hc : c < v.numCols) :
    v.col m c = .ok ⟨⟨v.data.off + c, (v.numRows - 1) * v.stride + 1⟩, v.stride - 1⟩ := by
  have hr : v.numRows ≠ 0 := Nat.ne_of_gt (h.rows_pos hc)
  have hl := h.len
  have hin := h.inside
  have hw := h.word
  have hs := h.stride
  rw [if_neg hr] at hl
  generalize hA : (v.numRows - 1) * v.stride = a at hl
  -- `b0`: `num_rows - 1`, `b1`: `… * stride`, `b2`: `start + …`, `b3`: `… + 1` (end), `b4`: `stride - 1` (skip), `b5`: `start..end` fits
  obtain ⟨b0, b1, b2, b3, b4, b5⟩ : 1 ≤ v.numRows ∧ a < WORD ∧ c + a < WORD ∧ c + a + 1 < WORD ∧ 1 ≤ v.stride ∧
      (c ≤ c + a + 1 ∧ c + a + 1 ≤ v.data.len) := by omega
  unfold VW.col VW.colParams
  dsimp only
  rw [if_neg (fun h => h hc), if_neg hr, usub_ok m b0, ok_bind, umul_ok m (hA ▸ b1), ok_bind, hA, uadd_ok m b2,
    ok_bind, uadd_ok m b3, ok_bind, usub_ok m b4, ok_bind, Win.getRange_ok b5.1 b5.2, ok_bind, pure_eq, ok_bind,
    Nat.add_assoc, Nat.add_sub_cancel_left]
  rfl

/-- the state `col(c)` / `col_mut(c)` of a view returns (`VW.Inv.col_ok`) is well-formed and stands for the positions of column `c` -/
theorem VW.Inv.col_cursor {v : VW} {n : Nat} (h : v.Inv n) {c : Nat} (hc : c < v.numCols) :
    (⟨⟨v.data.off + c, (v.numRows - 1) * v.stride + 1⟩, v.stride - 1⟩ : Col).WF v.numRows n ∧
    (⟨⟨v.data.off + c, (v.numRows - 1) * v.stride + 1⟩, v.stride - 1⟩ : Col).abs v.numRows =
      (List.range v.numRows).map fun r => v.pos c r := by
  have hr : v.numRows ≠ 0 := Nat.ne_of_gt (h.rows_pos hc)
  have hin := h.inside
  rw [h.len, if_neg hr] at hin
  exact Col.WF_of_grid hc h.stride hr hin h.stride_word h.word

/-- the same for the state `col(c)` of an owned array returns (`TD.Inv.col_ok`), from its view -/
theorem TD.Inv.col_cursor {α : Type} {t : TD α} (h : t.Inv) {c : Nat} (hc : c < t.numCols) :
    (⟨⟨c, (t.numRows - 1) * t.numCols + 1⟩, t.numCols - 1⟩ : Col).WF t.numRows t.data.length ∧
    (⟨⟨c, (t.numRows - 1) * t.numCols + 1⟩, t.numCols - 1⟩ : Col).abs t.numRows =
      (List.range t.numRows).map fun r => t.pos c r := by
  have h' := h.asView.col_cursor hc
  simp only [TD.asView_pos] at h'
  rw [show t.asView.data.off + c = c from Nat.zero_add c] at h'
  exact h'

/-- `TooDee::col` / `col_mut` with `c` in range -/
theorem TD.Inv.col_spec {α : Type} {t : TD α} (h : t.Inv) (m : Mode) (c : Nat) (hc : c < t.numCols) :
    ∃ it, t.col m c = .ok it ∧ it.WF t.numRows t.data.length ∧
      it.abs t.numRows = (List.range t.numRows).map fun r => t.pos c r :=
  ⟨_, h.col_ok m hc, h.col_cursor hc⟩

/-- `TooDee::col` / `col_mut` with `c` out of range -/
theorem TD.col_panic {α : Type} (m : Mode) (t : TD α) (c : Nat) (hc : t.numCols ≤ c) :
    t.col m c = .error .panic := by
  simp [TD.col, TD.colParams, Nat.not_lt.2 hc]

/-- `TooDeeView::col`, `TooDeeViewMut::col` / `col_mut` with `c` in range -/
theorem VW.Inv.col_spec {v : VW} {n : Nat} (h : v.Inv n) (m : Mode) (c : Nat) (hc : c < v.numCols) :
    ∃ it, v.col m c = .ok it ∧ it.WF v.numRows n ∧
      it.abs v.numRows = (List.range v.numRows).map fun r => v.pos c r :=
  ⟨_, h.col_ok m hc, h.col_cursor hc⟩

/-- `TooDeeView::col`, `TooDeeViewMut::col` / `col_mut` with `c` out of range -/
theorem VW.col_panic (m : Mode) (v : VW) (c : Nat) (hc : v.numCols ≤ c) :
    v.col m c = .error .panic := by
  simp [VW.col, VW.colParams, Nat.not_lt.2 hc]

/-- `x.col(c)[r]` for any `col` that hands out a well-formed cursor over `f c 0, f c 1, …` when `c` is in range (`TD.Inv.col_spec`,
    `VW.Inv.col_spec`) and panics otherwise (`TD.col_panic`, `VW.col_panic`): the cell `f c r`, or a panic — also when `r * stride` wraps
    around (`Col.index_panic`) -/
theorem col_index_eq (m : Mode) {col : Nat → Res Col} {f : Nat → Nat → Nat} {C R n : Nat}
    (hok : ∀ c, c < C → ∃ it, col c = .ok it ∧ it.WF R n ∧ it.abs R = (List.range R).map fun r => f c r)
    (hbad : ∀ c, C ≤ c → col c = .error .panic) (c r : Nat) :
    (col c >>= fun it => it.index m r) = if c < C ∧ r < R then .ok (f c r) else .error .panic := by
  by_cases hc : c < C
  · obtain ⟨it, hit, hwf, habs⟩ := hok c hc
    rw [hit, ok_bind, Col.index_of_abs hwf m habs]
    simp only [hc, true_and]
  · rw [hbad c (Nat.not_lt.1 hc), if_neg fun h => hc h.1]; rfl

end Toodee
