import Toodee.Spec.OpsSpec
import Toodee.Proofs.CellsLemmas
/-
  What the view constructors return: `calcViewDims`, then `view` / `view_mut` / `TooDeeViewMut::view` under the invariant compute
  the window `specView` prescribes (Spec/OpsSpec.lean) or panic where it rejects (`VW.Inv.view_eq`, `VW.Inv.viewChecked_eq`), and that
  window has the invariant, the prescribed size, and cells that are cells of its parent (`VW.Inv.specView_some`, `VW.Inv.specView_cells`).
  `from_toodee` is `view` on `t.asView`.

  Receivers (`Recv`, Impl/Recv.lean): `Recv.Sound`, `Recv.IsCell`, `Recv.asVW`; what each borrowing step returns
  (`Recv.Sound.borrow_view`, `_viewMut`, `Recv.borrow_sliceMut`, `_slice`, `_asExt`); and that a step or a chain of steps
  panics, is not in the API, or gives a sound receiver inside the one it was borrowed from (`Recv.Sound.borrow_outcome`,
  `Recv.Sound.borrowAll_outcome`).
-/
namespace Toodee
variable {α : Type}

/-- A non-empty window `s..e` of a view ends inside the borrowed slice: `s.2 * stride + s.1` is its first cell relative to the
    slice, the bracket its length (the `len` clause of `VW.Inv` for an `(e.1 - s.1) × (e.2 - s.2)` window). -/
theorem VW.Inv.window_fits {v : VW} {n : Nat} (h : v.Inv n) {s e : Nat × Nat} (h1 : s.1 ≤ e.1) (h2 : s.2 < e.2)
    (he : e.1 ≤ v.numCols ∧ e.2 ≤ v.numRows) :
    s.2 * v.stride + s.1 + ((e.2 - s.2 - 1) * v.stride + (e.1 - s.1)) ≤ v.data.len := by
  have hl := h.len
  rw [if_neg (by omega)] at hl
  have h3 : (s.2 + (e.2 - s.2 - 1)) * v.stride ≤ (v.numRows - 1) * v.stride := Nat.mul_le_mul_right _ (by omega)
  rw [Nat.add_mul] at h3
  omega

/-! ### `calcViewDims` on its three kinds of input
  One `rw` per guard and per arithmetic operation of `calculate_view_dimensions`, in program order. -/

private theorem calcViewDims_panic (m : Mode) (s e : Nat × Nat) {pc pr stride : Nat}
    (hbad : ¬ (s.1 ≤ e.1 ∧ s.2 ≤ e.2 ∧ e.1 ≤ pc ∧ e.2 ≤ pr)) :
    calcViewDims m s e pc pr stride = .error .panic := by
  unfold calcViewDims
  by_cases h1 : s.1 ≤ e.1
  · rw [if_neg (not_not_intro h1)]
    by_cases h2 : s.2 ≤ e.2
    · rw [if_neg (not_not_intro h2)]
      by_cases h3 : e.1 ≤ pc
      · rw [if_neg (not_not_intro h3), if_pos fun h4 => hbad ⟨h1, h2, h3, h4⟩]; rfl
      · rw [if_pos h3]; rfl
    · rw [if_pos h2]; rfl
  · rw [if_pos h1]; rfl

private theorem calcViewDims_empty (m : Mode) (s e : Nat × Nat) {pc pr stride : Nat}
    (hs : s.1 ≤ e.1 ∧ s.2 ≤ e.2) (he : e.1 ≤ pc ∧ e.2 ≤ pr) (hst : pc ≤ stride)
    (h0 : e.1 - s.1 = 0 ∨ e.2 - s.2 = 0) :
    calcViewDims m s e pc pr stride = .ok (0, 0, 0, 0) := by
  unfold calcViewDims
  rw [if_neg (not_not_intro hs.1), if_neg (not_not_intro hs.2), if_neg (not_not_intro he.1), if_neg (not_not_intro he.2),
    if_neg (not_not_intro hst), usub_ok m hs.1, ok_bind, usub_ok m hs.2, ok_bind, if_pos h0]
  rfl

private theorem calcViewDims_nonempty (m : Mode) (s e : Nat × Nat) {pc pr stride : Nat}
    (hs : s.1 < e.1 ∧ s.2 < e.2) (he : e.1 ≤ pc ∧ e.2 ≤ pr) (hst : pc ≤ stride)
    (hw : s.2 * stride + s.1 + ((e.2 - s.2 - 1) * stride + (e.1 - s.1)) < WORD) :
    calcViewDims m s e pc pr stride =
      .ok (e.1 - s.1, e.2 - s.2, s.2 * stride + s.1,
           s.2 * stride + s.1 + ((e.2 - s.2 - 1) * stride + (e.1 - s.1))) := by
  have hc := Nat.sub_ne_zero_of_lt hs.1
  have hr := Nat.sub_ne_zero_of_lt hs.2
  -- every partial sum of the last position is a `usize`
  have h1 : s.2 * stride + s.1 < WORD := Nat.lt_of_le_of_lt (Nat.le_add_right _ _) hw
  have h2 : (e.2 - s.2 - 1) * stride + (e.1 - s.1) < WORD := Nat.lt_of_le_of_lt (Nat.le_add_left _ _) hw
  unfold calcViewDims
  rw [if_neg (not_not_intro (Nat.le_of_lt hs.1)), if_neg (not_not_intro (Nat.le_of_lt hs.2)), if_neg (not_not_intro he.1),
    if_neg (not_not_intro he.2), if_neg (not_not_intro hst), usub_ok m (Nat.le_of_lt hs.1), ok_bind,
    usub_ok m (Nat.le_of_lt hs.2), ok_bind, if_neg fun h => h.elim hc hr,
    umul_ok m (Nat.lt_of_le_of_lt (Nat.le_add_right _ _) h1), ok_bind, uadd_ok m h1, ok_bind, if_neg hr,
    usub_ok m (Nat.pos_of_ne_zero hr), ok_bind, umul_ok m (Nat.lt_of_le_of_lt (Nat.le_add_right _ _) h2), ok_bind,
    uadd_ok m h2, ok_bind]
  exact congrArg (· >>= _) (uadd_ok m hw)

/-- `view` / `view_mut` (unchecked slicing) and `TooDeeViewMut::view` (checked slicing) once `calcViewDims` has accepted -/
private theorem VW.view_of_dims {m : Mode} {v : VW} {s e : Nat × Nat} {c r a l : Nat}
    (hd : calcViewDims m s e v.numCols v.numRows v.stride = .ok (c, r, a, a + l)) (hl : a + l ≤ v.data.len) :
    v.view m s e = .ok ⟨⟨v.data.off + a, l⟩, c, r, v.stride⟩ ∧
    v.viewChecked m s e = .ok ⟨⟨v.data.off + a, l⟩, c, r, v.stride⟩ := by
  unfold VW.view VW.viewChecked
  rw [hd, ok_bind, ok_bind]
  exact ⟨congrArg (· >>= _) (Win.getRange_add hl), congrArg (· >>= _) (Win.indexRange_add hl)⟩

private theorem VW.view_of_dims_panic {m : Mode} {v : VW} {s e : Nat × Nat}
    (hd : calcViewDims m s e v.numCols v.numRows v.stride = .error .panic) :
    v.view m s e = .error .panic ∧ v.viewChecked m s e = .error .panic := by
  unfold VW.view VW.viewChecked
  rw [hd]
  exact ⟨rfl, rfl⟩

/-- `from_toodee` is `view` on the array seen as a view of its own buffer -/
theorem VW.fromTooDee_eq_view (m : Mode) (s e : Nat × Nat) (t : TD α) :
    VW.fromTooDee m s e t = t.asView.view m s e := rfl

/-! ### `specView` -/

private theorem lt_of_extent_ne_zero {s e : Nat × Nat} (h0 : ¬ (e.1 - s.1 = 0 ∨ e.2 - s.2 = 0)) : s.1 < e.1 ∧ s.2 < e.2 :=
  ⟨Nat.lt_of_sub_ne_zero fun h => h0 (.inl h), Nat.lt_of_sub_ne_zero fun h => h0 (.inr h)⟩

/-- a coordinate below the size `viewSize` gives stays before `e` when offset by `s` -/
theorem viewSize_lt (s e : Nat × Nat) :
    (∀ c, c < (viewSize s e).1 → s.1 + c < e.1) ∧ (∀ r, r < (viewSize s e).2 → s.2 + r < e.2) := by
  unfold viewSize
  split
  · exact ⟨nofun, nofun⟩
  · exact ⟨fun _ => Nat.add_lt_of_lt_sub', fun _ => Nat.add_lt_of_lt_sub'⟩

theorem specView_empty {v : VW} {s e : Nat × Nat} (hs : s.1 ≤ e.1 ∧ s.2 ≤ e.2) (he : e.1 ≤ v.numCols ∧ e.2 ≤ v.numRows)
    (h0 : e.1 - s.1 = 0 ∨ e.2 - s.2 = 0) : specView v s e = some ⟨⟨v.data.off, 0⟩, 0, 0, v.stride⟩ := by
  simp only [specView, if_pos (show _ ∧ _ ∧ _ ∧ _ from ⟨hs.1, hs.2, he⟩), viewSize, if_pos h0, if_true]

theorem specView_nonempty {v : VW} {s e : Nat × Nat} (hs : s.1 < e.1 ∧ s.2 < e.2)
    (he : e.1 ≤ v.numCols ∧ e.2 ≤ v.numRows) :
    specView v s e =
      some ⟨⟨v.pos s.1 s.2, (e.2 - s.2 - 1) * v.stride + (e.1 - s.1)⟩, e.1 - s.1, e.2 - s.2, v.stride⟩ := by
  have hc := Nat.sub_ne_zero_of_lt hs.1
  have h0 : ¬ (e.1 - s.1 = 0 ∨ e.2 - s.2 = 0) := fun h => h.elim hc (Nat.sub_ne_zero_of_lt hs.2)
  simp only [specView, if_pos (show _ ∧ _ ∧ _ ∧ _ from ⟨Nat.le_of_lt hs.1, Nat.le_of_lt hs.2, he⟩), viewSize, if_neg h0,
    if_neg hc]

theorem specView_eq_none {v : VW} {s e : Nat × Nat} :
    specView v s e = none ↔ ¬ (s.1 ≤ e.1 ∧ s.2 ≤ e.2 ∧ e.1 ≤ v.numCols ∧ e.2 ≤ v.numRows) := by
  refine ⟨fun hn hok => ?_, fun hbad => if_neg hbad⟩
  by_cases h0 : e.1 - s.1 = 0 ∨ e.2 - s.2 = 0
  · rw [specView_empty ⟨hok.1, hok.2.1⟩ hok.2.2 h0] at hn; cases hn
  · rw [specView_nonempty (lt_of_extent_ne_zero h0) hok.2.2] at hn; cases hn

/-- `v'` is the window `s..e` of `v`: the request is in range (in the bracketing of `specView`'s definition), `v'` has the invariant
    and the prescribed size, and each of its cells is an in-range cell of `v` at the composed position -/
structure VW.IsWindow (v' v : VW) (n : Nat) (s e : Nat × Nat) : Prop where
  bounds : s.1 ≤ e.1 ∧ s.2 ≤ e.2 ∧ e.1 ≤ v.numCols ∧ e.2 ≤ v.numRows
  inv : v'.Inv n
  size : (v'.numCols, v'.numRows) = viewSize s e
  cell : ∀ c r, c < v'.numCols → r < v'.numRows →
    (s.1 + c < v.numCols ∧ s.2 + r < v.numRows) ∧ v'.pos c r = v.pos (s.1 + c) (s.2 + r)

theorem VW.Inv.specView_some {v v' : VW} {n : Nat} (h : v.Inv n) {s e : Nat × Nat} (hsv : specView v s e = some v') :
    v'.IsWindow v n s e := by
  have hok : s.1 ≤ e.1 ∧ s.2 ≤ e.2 ∧ e.1 ≤ v.numCols ∧ e.2 ≤ v.numRows :=
    Decidable.byContradiction fun hbad => by rw [specView_eq_none.2 hbad] at hsv; cases hsv
  have hs : s.1 ≤ e.1 ∧ s.2 ≤ e.2 := ⟨hok.1, hok.2.1⟩
  have he := hok.2.2
  have hin := h.inside
  by_cases h0 : e.1 - s.1 = 0 ∨ e.2 - s.2 = 0
  · rw [specView_empty hs he h0] at hsv
    cases hsv
    -- the six fields of `VW.Inv`: stride, zero, len, inside, word, stride_word
    exact ⟨hok, ⟨Nat.zero_le _, Iff.rfl, rfl, Nat.le_trans (Nat.le_add_right _ _) hin, h.word, h.stride_word⟩,
      (if_pos h0).symm, fun c r hc => absurd hc (Nat.not_lt_zero c)⟩
  · have hs' := lt_of_extent_ne_zero h0
    rw [specView_nonempty hs' he] at hsv
    cases hsv
    have hfit := h.window_fits hs.1 hs'.2 he
    refine ⟨hok, ⟨Nat.le_trans (Nat.sub_le _ _) (Nat.le_trans he.1 h.stride),
        ⟨fun hc => absurd (.inl hc) h0, fun hr => absurd (.inr hr) h0⟩, (if_neg fun hr => h0 (.inr hr)).symm, ?_, h.word,
        h.stride_word⟩,
      (if_neg h0).symm, fun c r hc hr => ?_⟩
    · simp only [VW.pos]; omega
    · refine ⟨⟨Nat.lt_of_lt_of_le (Nat.add_lt_of_lt_sub' hc) he.1, Nat.lt_of_lt_of_le (Nat.add_lt_of_lt_sub' hr) he.2⟩, ?_⟩
      simp only [VW.pos, Nat.add_mul]
      omega

theorem VW.Inv.specView_cells {v v' : VW} {n : Nat} (h : v.Inv n) {s e : Nat × Nat} (hsv : specView v s e = some v') {p : Nat}
    (hp : (v'.coord? p).isSome) : (v.coord? p).isSome := by
  obtain ⟨⟨c, r⟩, hcr⟩ := Option.isSome_iff_exists.1 hp
  obtain ⟨rfl, hc, hr⟩ := VW.coord?_eq_some hcr
  obtain ⟨hlt, hpos⟩ := (h.specView_some hsv).cell c r hc hr
  rw [hpos, h.coord?_pos hlt.1 hlt.2]
  rfl

private theorem view_eq_both {v : VW} {n : Nat} (h : v.Inv n) (m : Mode) (s e : Nat × Nat) :
    v.view m s e = (match specView v s e with | some v' => .ok v' | none => .error .panic) ∧
    v.viewChecked m s e = (match specView v s e with | some v' => .ok v' | none => .error .panic) := by
  by_cases hok : s.1 ≤ e.1 ∧ s.2 ≤ e.2 ∧ e.1 ≤ v.numCols ∧ e.2 ≤ v.numRows
  · have hs : s.1 ≤ e.1 ∧ s.2 ≤ e.2 := ⟨hok.1, hok.2.1⟩
    have he := hok.2.2
    by_cases h0 : e.1 - s.1 = 0 ∨ e.2 - s.2 = 0
    · rw [specView_empty hs he h0]
      exact VW.view_of_dims (a := 0) (l := 0) (calcViewDims_empty m s e hs he h.stride h0) (Nat.zero_le _)
    · have hs' := lt_of_extent_ne_zero h0
      have hfit := h.window_fits hs.1 hs'.2 he
      have := h.inside
      have := h.word
      rw [specView_nonempty hs' he, VW.pos, Nat.add_assoc]
      exact VW.view_of_dims (calcViewDims_nonempty m s e hs' he h.stride (by omega)) hfit
  · rw [specView_eq_none.2 hok]
    exact VW.view_of_dims_panic (calcViewDims_panic m s e hok)

/-- **under the invariant `view` / `view_mut` compute `specView`**, and panic where it rejects -/
theorem VW.Inv.view_eq {v : VW} {n : Nat} (h : v.Inv n) (m : Mode) (s e : Nat × Nat) :
    v.view m s e = (match specView v s e with | some v' => .ok v' | none => .error .panic) :=
  (view_eq_both h m s e).1

/-- **and so does `TooDeeViewMut::view`** (checked slicing) -/
theorem VW.Inv.viewChecked_eq {v : VW} {n : Nat} (h : v.Inv n) (m : Mode) (s e : Nat × Nat) :
    v.viewChecked m s e = (match specView v s e with | some v' => .ok v' | none => .error .panic) :=
  (view_eq_both h m s e).2

/-- `TooDeeViewMut::view` slices with a bounds check, `view` / `view_mut` without: under the invariant they agree -/
theorem VW.Inv.viewChecked_eq_view {v : VW} {n : Nat} (h : v.Inv n) (m : Mode) (s e : Nat × Nat) :
    v.viewChecked m s e = v.view m s e :=
  (h.viewChecked_eq m s e).trans (h.view_eq m s e).symm

/-! ### Receivers: soundness, cells, and what a borrowing step returns (`Recv.borrow`, Impl/Recv.lean) -/

/-- a receiver is sound over a root buffer of `n` cells -/
def Recv.Sound (n : Nat) : Recv α → Prop
  | .root t | .ext t => t.Inv ∧ t.data.length = n
  | .vmut v | .vsh v => v.Inv n

/-- the root-buffer positions that are cells of the receiver -/
def Recv.IsCell : Recv α → Nat → Prop
  | .root t, p | .ext t, p => p < t.data.length
  | .vmut v, p | .vsh v, p => (v.coord? p).isSome

/-- the rectangle of the root buffer a receiver stands for -/
def Recv.asVW : Recv α → VW
  | .root t | .ext t => t.asView
  | .vmut v | .vsh v => v

theorem Recv.Sound.asVW {rc : Recv α} {n : Nat} (h : rc.Sound n) : rc.asVW.Inv n := by
  cases rc with
  | root t | ext t => exact h.2 ▸ h.1.asView
  | vmut v | vsh v => exact h

theorem Recv.Sound.isCell_of_asVW {rc : Recv α} {n p : Nat} (h : rc.Sound n) (hp : (rc.asVW.coord? p).isSome) :
    rc.IsCell p := by
  cases rc with
  | root t | ext t => exact Nat.lt_of_lt_of_eq (h.asVW.coord?_lt hp) h.2.symm
  | vmut v | vsh v => exact hp

/-- a view constructor `x` that computes the window `o` or panics, wrapped into a receiver by `f` -/
private theorem spec_step {x : Res VW} {o : Option VW} (hx : x = match o with | some v' => .ok v' | none => .error .panic)
    (f : VW → Recv α) :
    (x >>= fun v' => (pure (some (f v')) : Res (Option (Recv α)))) =
      (match (generalizing := false) o with | some v' => .ok (some (f v')) | none => .error .panic) := by
  rw [hx]
  cases o <;> rfl

/-- a slice-based constructor `mk` (`VW.newMut c r` or `VW.newShared c r`: same equation, `VW.newMut_eq` / `VW.newShared_eq`) on the
    array itself -/
private theorem slice_eq (t : TD α) (c r k : Nat) (f : VW → Recv α) {mk : Win → Res VW}
    (hmk : ∀ sl, mk sl = if shapeOk c r ∧ c * r ≤ sl.len then .ok ⟨⟨sl.off, c * r⟩, c, r, c⟩ else .error .panic) :
    (t.win.indexTo k >>= fun sl => mk sl >>= fun v => (pure (some (f v)) : Res (Option (Recv α)))) =
      (if k ≤ t.data.length ∧ shapeOk c r ∧ c * r ≤ k then .ok (some (f ⟨⟨0, c * r⟩, c, r, c⟩)) else .error .panic) := by
  by_cases hk : k ≤ t.data.length
  · rw [Win.indexTo_ok (w := t.win) hk, ok_bind, hmk]
    by_cases hok : shapeOk c r ∧ c * r ≤ k
    · rw [if_pos hok, if_pos ⟨hk, hok⟩]; rfl
    · rw [if_neg hok, if_neg (fun hh => hok hh.2)]; rfl
  · rw [Win.indexTo_panic (w := t.win) (Nat.not_le.1 hk), if_neg (fun hh => hk hh.1)]; rfl

section borrow
variable {rc : Recv α} {n : Nat}

/-- `view(s, e)` from any receiver: the shared view of exactly the window `specView` prescribes, or a panic where it rejects -/
theorem Recv.Sound.borrow_view (h : rc.Sound n) (m : Mode) (s e : Nat × Nat) :
    rc.borrow m (.view s e) = (match specView rc.asVW s e with | some v' => .ok (some (.vsh v')) | none => .error .panic) := by
  cases rc with
  | root t | ext t | vsh v => exact spec_step (h.asVW.view_eq m s e) Recv.vsh
  | vmut v => exact spec_step (h.viewChecked_eq m s e) Recv.vsh

/-- `view_mut(s, e)`: the mutable view of the same window; a shared view has no such call -/
theorem Recv.Sound.borrow_viewMut (h : rc.Sound n) (m : Mode) (s e : Nat × Nat) :
    rc.borrow m (.viewMut s e) =
      (match rc with
       | .vsh _ => .ok none
       | _ => (match specView rc.asVW s e with | some v' => .ok (some (.vmut v')) | none => .error .panic)) := by
  cases rc with
  | vsh v => rfl
  | _ => exact spec_step (h.asVW.view_eq m s e) Recv.vmut

/-- `TooDeeViewMut::new(c, r, &mut data_mut()[..k])`, on the array itself only: accepts exactly `k ≤ len ∧ shapeOk c r ∧ c * r ≤ k` and
    gives the row-major prefix view -/
theorem Recv.borrow_sliceMut (m : Mode) (rc : Recv α) (c r k : Nat) :
    rc.borrow m (.sliceMut c r k) =
      (match rc with
       | .root t => if k ≤ t.data.length ∧ shapeOk c r ∧ c * r ≤ k then .ok (some (.vmut ⟨⟨0, c * r⟩, c, r, c⟩)) else .error .panic
       | _ => .ok none) := by
  cases rc with
  | root t => exact slice_eq t c r k Recv.vmut (VW.newMut_eq c r)
  | _ => rfl

/-- `TooDeeView::new(c, r, &data()[..k])`: as `Recv.borrow_sliceMut`, shared -/
theorem Recv.borrow_slice (m : Mode) (rc : Recv α) (c r k : Nat) :
    rc.borrow m (.slice c r k) =
      (match rc with
       | .root t => if k ≤ t.data.length ∧ shapeOk c r ∧ c * r ≤ k then .ok (some (.vsh ⟨⟨0, c * r⟩, c, r, c⟩)) else .error .panic
       | _ => .ok none) := by
  cases rc with
  | root t => exact slice_eq t c r k Recv.vsh (VW.newShared_eq c r)
  | _ => rfl

/-- handing the array to a wrapper only re-labels it -/
theorem Recv.borrow_asExt (m : Mode) (rc : Recv α) :
    rc.borrow m .asExt = (match rc with | .root t => .ok (some (.ext t)) | _ => .ok none) := by
  cases rc <;> rfl

/-- what a borrowing step, or a chain of them, from `rc` may return: a panic, "the API has no such call", or a sound receiver whose cells
    are cells of `rc` -/
abbrev Recv.BorrowOutcome (n : Nat) (rc : Recv α) (x : Res (Option (Recv α))) : Prop :=
  x = .error .panic ∨ x = .ok none ∨ ∃ rc1, x = .ok (some rc1) ∧ rc1.Sound n ∧ ∀ p, rc1.IsCell p → rc.IsCell p

theorem Recv.BorrowOutcome.facts {x : Res (Option (Recv α))} (hx : Recv.BorrowOutcome n rc x) :
    x ≠ .error .ub ∧ x ≠ .error .fuel ∧ ∀ rc', x = .ok (some rc') → rc'.Sound n ∧ ∀ p, rc'.IsCell p → rc.IsCell p := by
  rcases hx with rfl | rfl | ⟨rc1, rfl, hp⟩
  · exact ⟨nofun, nofun, nofun⟩
  · exact ⟨nofun, nofun, nofun⟩
  · exact ⟨nofun, nofun, fun rc' hrc => by cases hrc; exact hp⟩

/-- an outcome of borrowing from `rc1` is one of borrowing from `rc`, when `rc1` lies inside `rc` -/
theorem Recv.BorrowOutcome.mono {rc1 : Recv α} {x : Res (Option (Recv α))} (hc : ∀ p, rc1.IsCell p → rc.IsCell p)
    (hx : Recv.BorrowOutcome n rc1 x) : Recv.BorrowOutcome n rc x :=
  hx.imp_right (Or.imp_right fun ⟨rc2, h2, hs, hc2⟩ => ⟨rc2, h2, hs, fun p hp => hc p (hc2 p hp)⟩)

/-- a step that wraps the window `specView` prescribes, or panics -/
private theorem Recv.BorrowOutcome.of_specView (k : VW → Recv α) {o : Option VW} {x : Res (Option (Recv α))}
    (hx : x = match o with | some v' => .ok (some (k v')) | none => .error .panic)
    (hk : ∀ v', o = some v' → (k v').Sound n ∧ ∀ p, (k v').IsCell p → rc.IsCell p) : Recv.BorrowOutcome n rc x := by
  cases o with
  | none => exact .inl hx
  | some v' => exact .inr (.inr ⟨_, hx, hk v' rfl⟩)

/-- **one borrowing step from any sound receiver**, any arguments -/
theorem Recv.Sound.borrow_outcome (h : rc.Sound n) (m : Mode) (b : Borrow) : Recv.BorrowOutcome n rc (rc.borrow m b) := by
  have hsome : ∀ {s e} v', specView rc.asVW s e = some v' → v'.Inv n ∧ ∀ p, (v'.coord? p).isSome → rc.IsCell p :=
    fun _ hsv => ⟨(h.asVW.specView_some hsv).inv, fun _ hp => h.isCell_of_asVW (h.asVW.specView_cells hsv hp)⟩
  cases b with
  | asExt =>
    have hx := rc.borrow_asExt m
    cases rc with
    | root t => exact .inr (.inr ⟨_, hx, h, fun _ hp => hp⟩)
    | _ => exact .inr (.inl hx)
  | view s e => exact Recv.BorrowOutcome.of_specView Recv.vsh (h.borrow_view m s e) hsome
  | viewMut s e =>
    have hx := h.borrow_viewMut m s e
    cases rc with
    | vsh v => exact .inr (.inl hx)
    | _ => exact Recv.BorrowOutcome.of_specView Recv.vmut hx hsome
  | sliceMut c r k | slice c r k =>
    first | rw [rc.borrow_sliceMut m c r k] | rw [rc.borrow_slice m c r k]
    cases rc with
    | root t =>
      obtain ⟨ht, rfl⟩ := h
      by_cases hok : k ≤ t.data.length ∧ shapeOk c r ∧ c * r ≤ k
      · have hinv : (⟨⟨0, c * r⟩, c, r, c⟩ : VW).Inv t.data.length :=
          VW.Inv.full_width hok.2.1.1 (Nat.le_trans (Nat.le_of_eq (Nat.zero_add _)) (Nat.le_trans hok.2.2 hok.1)) ht.word
        exact .inr (.inr ⟨_, if_pos hok, hinv, fun _ hp => hinv.coord?_lt hp⟩)
      · exact .inl (if_neg hok)
    | _ => exact .inr (.inl rfl)

/-- **any chain of borrowing steps** (nested views to any depth) -/
theorem Recv.Sound.borrowAll_outcome (h : rc.Sound n) (m : Mode) (bs : List Borrow) : Recv.BorrowOutcome n rc (rc.borrowAll m bs) := by
  induction bs generalizing rc with
  | nil => exact .inr (.inr ⟨rc, rfl, h, fun _ hp => hp⟩)
  | cons b bs ih =>
    unfold Recv.borrowAll
    rcases h.borrow_outcome m b with hbr | hbr | ⟨rc1, hbr, hs1, hc1⟩
    · rw [hbr]; exact .inl rfl
    · rw [hbr]; exact .inr (.inl rfl)
    · rw [hbr]; exact (ih hs1).mono hc1

end borrow

end Toodee
