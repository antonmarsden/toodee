import Toodee.Proofs.HistoryFlow
import Toodee.Proofs.SpecCells
import Toodee.Properties.C03
/-
  Lemmas for C01 / C05 (histories): one in-place call (`MOp`) on a receiver that is a window `v` of a root buffer `buf` — an
  owned array is the window `t.asView` of its own buffer, a mutable view of it any other.  `VW.grid` (GridLemmas) names the rows
  of cells the window shows, `Agrees` what it means for the four readings of a call to tell the same story.  The two result forms of the
  specification are read on `VW.grid` once: `gather buf (v.mapCells g)` is `gridPerm` (`VW.Inv.grid_gather`), `v.updCells buf f` replaces
  the cells `f` gives (`VW.Inv.grid_updCells`).  Then: an owned array as a window; a window placed inside an array (`Placed`: what it
  shows is cut out of the array's rows of cells, and the array with the window put back has them patched in); `spec_agrees`,
  operation by operation: the specification `MOp.spec`, the plain model's acceptance `MOp.gok` and result `gstepM` on those rows of
  cells, and the element flow `vflow` agree; last, `mflow` of an owned array against `vflow`.
  Cited property theorems: C03_from_toodee_valid (the source window of `copy_from_toodee`), C16_key_row_length (the key row of a sort).
-/
namespace Toodee
variable {α : Type}

theorem gridPerm_eq (G : List (List α)) (f : Nat × Nat → Nat × Nat) :
    gridPerm G f = gridOf (gcols G) G.length (fun c r => gcell G (f (c, r)).1 (f (c, r)).2) := rfl

/-- a sorted line fits the side table: the specification panics when it does not, the plain model knows no side table -/
def MOp.fitsLim (C R lim : Nat) : MOp α → Prop
  | .sortRow _ _ => C ≤ lim
  | .sortCol _ _ => R ≤ lim
  | _ => True

/-- one in-place call read four ways — `res` its specification on the window `v` of `buf`, `acc` and `gres` the plain model's
    acceptance and result on the window's rows of cells, `F` its element flow — and the readings agree: a call that succeeds is
    accepted, shows the plain model's rows of cells and conserves the buffer; a call that fails panics and is not accepted (what
    `gstepM` gives then: `hs_gok_false_gstepM`).  `fit` is the one thing the plain model does not see: the specification also panics
    when a sorted line is longer than the side table (`MOp.fitsLim`) -/
def Agrees (v : VW) (buf : List α) (fit : Prop) (res : Res (List α)) (acc : Bool) (gres : Option (List (List α))) (F : Flow α) :
    Prop :=
  match res with
  | .ok d => acc = true ∧ (∀ g', gres = some g' → v.grid d = g') ∧ F.Conserves buf d
  | .error er => er = .panic ∧ (fit → acc = false)

section constructors
variable {v : VW} {buf : List α} {fit : Prop} {gres : Option (List (List α))} {F : Flow α}

theorem Agrees.reject : Agrees v buf fit (.error .panic) false gres F := ⟨rfl, fun _ => rfl⟩

theorem Agrees.unfit {acc : Bool} (hn : ¬ fit) : Agrees v buf fit (.error .panic) acc gres F := ⟨rfl, fun hf => absurd hf hn⟩

theorem Agrees.accept {d : List α} (hg : ∀ g', gres = some g' → v.grid d = g') (hF : F.Conserves buf d) :
    Agrees v buf fit (.ok d) true gres F := ⟨rfl, hg, hF⟩

/-- the guard all readings share -/
theorem Agrees.ite {P : Prop} [Decidable P] {res : Res (List α)} {g0 : Option (List (List α))}
    (hP : P → Agrees v buf fit res true gres F) :
    Agrees v buf fit (if P then res else .error .panic) (decide P) (if P then gres else g0) F := by
  by_cases hp : P
  · rw [if_pos hp, if_pos hp, decide_eq_true hp]
    exact hP hp
  · rw [if_neg hp, if_neg hp, decide_eq_false hp]
    exact .reject

end constructors

section window
variable {v : VW} {buf : List α} {fit : Prop} (h : v.Inv buf.length)
include h

theorem VW.Inv.grid_gather (g : Nat × Nat → Nat × Nat)
    (hg : CellMap v.numCols v.numRows g) :
    v.grid (gather buf (v.mapCells g)) = gridPerm (v.grid buf) g := by
  rw [gridPerm_eq, h.gcols_grid, VW.grid_length]
  apply gridOf_congr
  intro c r hc hr
  rw [h.gather_mapCells_pos _ hg hc hr, h.gcell_grid (hg c r hc hr).1 (hg c r hc hr).2]

theorem VW.Inv.grid_updCells (f : Nat × Nat → Option α) :
    v.grid (v.updCells buf f) = gridOf v.numCols v.numRows fun c r => (f (c, r)).or buf[v.pos c r]? := by
  apply gridOf_congr
  intro c r hc hr
  rw [h.updCells_pos f hc hr]
  cases f (c, r) <;> rfl

theorem VW.Inv.grid_reverse : (v.grid buf).reverse = gridPerm (v.grid buf) (flipRowsG v.numRows) := by
  rw [gridPerm_eq, h.gcols_grid, VW.grid_length]
  conv => lhs; rw [VW.grid, gridOf_reverse]
  exact gridOf_congr _ _ _ _ fun c r hc hr => (h.gcell_grid hc (by show v.numRows - 1 - r < _; omega)).symm

theorem VW.Inv.grid_map_reverse : (v.grid buf).map List.reverse = gridPerm (v.grid buf) (flipColsG v.numCols) := by
  rw [gridPerm_eq, h.gcols_grid, VW.grid_length]
  conv => lhs; rw [VW.grid, gridOf_map_reverse]
  exact gridOf_congr _ _ _ _ fun c r hc hr => (h.gcell_grid (by show v.numCols - 1 - c < _; omega) hr).symm

/-- a cell bijection: the plain model permutes the rows of cells, nothing flows -/
theorem Agrees.perm (g : Nat × Nat → Nat × Nat)
    (hg : CellMap v.numCols v.numRows g) (hinj : CellInj v.numCols v.numRows g) :
    Agrees v buf fit (.ok (gather buf (v.mapCells g))) true (some (gridPerm (v.grid buf) g)) {} :=
  .accept (fun _ e => (h.grid_gather g hg).trans (Option.some.inj e))
    (Flow.conserves_of_perm (h.gather_mapCells_perm g hg hinj))

/-- an overwrite: the plain model's rows of cells are the old ones with the written cells replaced; the replaced cells are
    dropped -/
theorem Agrees.upd (f : Nat × Nat → Option α) {G' : List (List α)} {F : Flow α}
    (hG : G' = gridOf v.numCols v.numRows fun c r => (f (c, r)).or buf[v.pos c r]?)
    (hF : F.Conserves buf (v.updCells buf f)) : Agrees v buf fit (.ok (v.updCells buf f)) true (some G') F :=
  .accept (fun _ e => (h.grid_updCells f).trans (hG.symm.trans (Option.some.inj e))) hF

/-- a line sort with any side sort `side` on the key line `keys` of `k` cells: caller code panics in it, or it returns a permutation
    `p` of the line's indices and the cells are permuted by `g p` -/
theorem Agrees.sort {side : SideSort α} (hs : side.Sane) (keys : List α) {k : Nat} (hk : keys.length = k)
    (g : List Nat → Nat × Nat → Nat × Nat)
    (hg : ∀ p, p.Perm (List.range k) → CellMap v.numCols v.numRows (g p))
    (hinj : ∀ p, p.Perm (List.range k) → CellInj v.numCols v.numRows (g p)) :
    Agrees v buf fit (side keys >>= fun p => pure (gather buf (v.mapCells (g p))))
      (match side keys with | .ok _ => true | .error _ => false)
      (match side keys with
        | .ok p => if p.Perm (List.range k) then some (gridPerm (v.grid buf) (g p)) else none
        | .error _ => some (v.grid buf)) {} := by
  rcases hs keys with he | ⟨p, he, hp⟩
  · rw [he]
    exact .reject
  · rw [hk] at hp
    rw [he]
    simp only [ok_bind, if_pos hp]
    exact .perm h _ (hg p hp) (hinj p hp)

end window

/-! an owned array is the window `t.asView` of its own buffer -/

theorem hs_asView_numCols (t : TD α) : t.asView.numCols = t.numCols := rfl
theorem hs_asView_numRows (t : TD α) : t.asView.numRows = t.numRows := rfl

theorem hs_gridOf_length (C R : Nat) (X : Nat → Nat → Option α) : (gridOf C R X).length = R :=
  gridOf_length C R X

theorem TD.Inv.grid_eq_asView {t : TD α} (h : t.Inv) : t.grid = t.asView.grid t.data := by
  rw [TD.grid, toRows_eq_gridOf _ _ _ h.len h.zero.1]
  apply gridOf_congr
  intro c r _ _
  rw [t.asView_pos]
  rfl

/-- the window `t.asView` depends on the buffer only through its length: it also shows the rows of cells of a new buffer -/
theorem TD.Inv.grid_with_data {t : TD α} (h : t.Inv) (d : List α) (hd : d.length = t.data.length) :
    ({ t with data := d } : TD α).grid = t.asView.grid d := by
  rw [TD.Inv.grid_eq_asView (h.with_data d hd)]
  show (⟨⟨0, d.length⟩, _, _, _⟩ : VW).grid d = (⟨⟨0, t.data.length⟩, _, _, _⟩ : VW).grid d
  rw [hd]

/-- the window `v` is placed at `s` in the array `t`, as `from_toodee` / `view_mut` place the window from `s` to `e`
    (C03_from_toodee_valid gives `size` and `pos`) -/
structure Placed (t : TD α) (v : VW) (s e : Nat × Nat) : Prop where
  le : e.1 ≤ t.numCols ∧ e.2 ≤ t.numRows
  size : (v.numCols, v.numRows) = viewSize s e
  pos : ∀ c r, c < v.numCols → r < v.numRows → v.pos c r = t.pos (s.1 + c) (s.2 + r)

section placed
variable {t : TD α} {v : VW} {s e : Nat × Nat} (hp : Placed t v s e)
include hp

theorem Placed.cols : (viewSize s e).1 = v.numCols := by rw [← hp.size]

theorem Placed.rows : (viewSize s e).2 = v.numRows := by rw [← hp.size]

theorem Placed.inside {c r : Nat} (hc : c < v.numCols) (hr : r < v.numRows) : s.1 + c < t.numCols ∧ s.2 + r < t.numRows := by
  obtain ⟨hcs, hrs⟩ := viewSize_lt s e
  exact ⟨Nat.lt_of_lt_of_le (hcs c (hp.cols ▸ hc)) hp.le.1, Nat.lt_of_lt_of_le (hrs r (hp.rows ▸ hr)) hp.le.2⟩

variable (h : t.Inv)
include h

/-- the window's rows of cells are the window cut out of the array's, as the plain model cuts it -/
theorem Placed.grid :
    gridOf (viewSize s e).1 (viewSize s e).2 (fun c r => gcell t.grid (s.1 + c) (s.2 + r)) = v.grid t.data := by
  rw [← hp.size]
  refine gridOf_congr _ _ _ _ fun c r hc hr => ?_
  obtain ⟨h1, h2⟩ := hp.inside hc hr
  rw [hp.pos c r hc hr, h.gcell_grid h1 h2]

/-- a cell of the array outside the window is not one of the window's -/
theorem Placed.coord_none (c r : Nat) (hc : c < t.numCols)
    (hout : ¬ (s.1 ≤ c ∧ c < s.1 + v.numCols ∧ s.2 ≤ r ∧ r < s.2 + v.numRows)) :
    v.coord? (t.pos c r) = none := by
  cases hq : v.coord? (t.pos c r) with
  | none => rfl
  | some cr =>
    obtain ⟨c', r'⟩ := cr
    obtain ⟨he, hc', hr'⟩ := VW.coord?_eq_some hq
    obtain ⟨h1, _⟩ := hp.inside hc' hr'
    have he' : t.asView.pos c r = t.asView.pos (s.1 + c') (s.2 + r') := by
      rw [t.asView_pos, t.asView_pos, ← hp.pos c' r' hc' hr', ← he]
    obtain ⟨e1, e2⟩ := h.asView.pos_inj hc h1 he'
    subst e1 e2
    exact absurd ⟨Nat.le_add_right .., Nat.add_lt_add_left hc' _, Nat.le_add_right .., Nat.add_lt_add_left hr' _⟩ hout

/-- **the array with the window put back**: a buffer of the same length that agrees with the array's outside the window shows the
    array's rows of cells with the window's patched in -/
theorem Placed.patched (d : List α) (hinv : v.Inv d.length) (hd : d.length = t.data.length)
    (hframe : ∀ p, v.coord? p = none → d[p]? = t.data[p]?) :
    ({ t with data := d } : TD α).grid = gridOf t.numCols t.numRows fun c r =>
      if s.1 ≤ c ∧ c < s.1 + v.numCols ∧ s.2 ≤ r ∧ r < s.2 + v.numRows then gcell (v.grid d) (c - s.1) (r - s.2)
      else gcell t.grid c r := by
  rw [h.grid_with_data d hd]
  refine gridOf_congr _ _ _ _ fun c r hc hr => ?_
  rw [t.asView_pos]
  show d[r * t.numCols + c]? = _
  split
  · rename_i hin
    have hcc : c - s.1 < v.numCols := Nat.sub_lt_left_of_lt_add hin.1 hin.2.1
    have hrr : r - s.2 < v.numRows := Nat.sub_lt_left_of_lt_add hin.2.2.1 hin.2.2.2
    rw [hinv.gcell_grid hcc hrr, hp.pos _ _ hcc hrr, Nat.add_sub_cancel' hin.1, Nat.add_sub_cancel' hin.2.2.1]
    rfl
  · rename_i hout
    rw [h.gcell_grid hc hr]
    exact hframe _ (hp.coord_none h c r hc hout)

end placed

theorem CopySrc.grid?_eq_grid (src : CopySrc α) (hsrc : src.arr.Inv) (sg : List (List α)) (hsg : src.grid? = some sg) :
    ∃ sv : VW, sv.Inv src.arr.data.length ∧ sg = sv.grid src.arr.data := by
  obtain ⟨arr, window⟩ := src
  cases window with
  | none =>
    cases hsg
    exact ⟨_, hsrc.asView, hsrc.grid_eq_asView⟩
  | some w =>
    obtain ⟨tl, br⟩ := w
    rw [CopySrc.grid?_window] at hsg
    by_cases hc : tl.1 ≤ br.1 ∧ tl.2 ≤ br.2 ∧ br.1 ≤ arr.numCols ∧ br.2 ≤ arr.numRows
    · rw [if_pos hc] at hsg
      -- any mode: only the existence of the window is used
      obtain ⟨v, _, hinv, hsz, hpos⟩ := C03_from_toodee_valid .release arr hsrc tl br ⟨hc.1, hc.2.1⟩ hc.2.2
      exact ⟨v, hinv, (Option.some.inj hsg).symm.trans (Placed.grid ⟨hc.2.2, hsz, hpos⟩ hsrc)⟩
    · rw [if_neg hc] at hsg
      cases hsg

theorem MOp.spec_sortRow_over_lim (v : VW) (lim : Nat) (buf : List α) (side : SideSort α) (row : Nat) (ho : lim < v.numCols) :
    (MOp.sortRow side row).spec v lim buf = .error .panic := by
  dsimp only [MOp.spec]
  rw [if_neg (fun hc => Nat.not_le.2 ho hc.2)]
  rfl

theorem MOp.spec_sortCol_over_lim (v : VW) (lim : Nat) (buf : List α) (side : SideSort α) (col : Nat) (ho : lim < v.numRows) :
    (MOp.sortCol side col).spec v lim buf = .error .panic := by
  dsimp only [MOp.spec]
  rw [if_neg (fun hc => Nat.not_le.2 ho hc.2)]
  rfl

theorem hv_sortRow_lim (v : VW) (lim : Nat) (buf b : List α) (side : SideSort α) (row : Nat)
    (hd : (MOp.sortRow side row).spec v lim buf = .ok b) : v.numCols ≤ lim :=
  Nat.le_of_not_lt fun ho => by rw [MOp.spec_sortRow_over_lim v lim buf side row ho] at hd; cases hd

theorem hv_sortCol_lim (v : VW) (lim : Nat) (buf b : List α) (side : SideSort α) (col : Nat)
    (hd : (MOp.sortCol side col).spec v lim buf = .ok b) : v.numRows ≤ lim :=
  Nat.le_of_not_lt fun ho => by rw [MOp.spec_sortCol_over_lim v lim buf side col ho] at hd; cases hd

theorem vflow_of_written {v : VW} {buf : List α} {op : MOp α} {f : Nat × Nat → Option α}
    (hw : op.cellsWrittenV v buf = some f) : (vflow v buf op).Conserves buf (v.updCells buf f) := by
  unfold vflow
  rw [hw]
  exact (v.updCells_conserves buf f).add_side _

/-- for every sane in-place call on a window, its four readings agree -/
theorem spec_agrees {v : VW} {buf : List α} (h : v.Inv buf.length) (lim : Nat) (op : MOp α) (hs : op.Sane) (hsrc : op.srcOk) :
    Agrees v buf (op.fitsLim v.numCols v.numRows lim) (op.spec v lim buf) (op.gok (v.grid buf)) (gstepM (v.grid buf) op)
      (vflow v buf op) := by
  have hC := h.gcols_grid
  have hR : (v.grid buf).length = v.numRows := VW.grid_length
  -- every case: unfold the three readings, turn the grid's `gcols` / `length` (in which `gok` and `gstepM` speak) into the window's
  -- dimensions (in which the specification speaks), then the guard `.ite` and one of `.perm` / `.upd`
  cases op with
  | set c r x | setInRow r c x =>
    dsimp only [MOp.spec, MOp.gok, gstepM]
    rw [hC, hR]
    exact .ite fun hP => .upd h _ (h.grid_set c r x) (vflow_of_written (if_pos hP))
  | fill x =>
    refine .upd h _ ?_ (vflow_of_written rfl)
    rw [VW.grid, gridOf_map_map]
    exact gridOf_congr _ _ _ _ fun c r hc hr => by
      rw [List.getElem?_eq_getElem (h.pos_lt hc hr)]
      rfl
  | swap c1 r1 c2 r2 =>
    dsimp only [MOp.spec, MOp.gok, gstepM]
    rw [hC, hR]
    exact .ite fun hP => .perm h _ (swapCellG_cellMap hP.1 hP.2.1 hP.2.2.1 hP.2.2.2) swapCellG_cellInj
  | swapRows r1 r2 =>
    dsimp only [MOp.spec, MOp.gok, gstepM]
    rw [hR]
    exact .ite fun hP => .perm h _ (swapRowsG_cellMap hP.1 hP.2) swapRowsG_cellInj
  | swapCols c1 c2 =>
    dsimp only [MOp.spec, MOp.gok, gstepM]
    rw [hC]
    exact .ite fun hP => .perm h _ (swapColsG_cellMap hP.1 hP.2) swapColsG_cellInj
  | copyFromSlice src =>
    dsimp only [MOp.spec, MOp.gok, gstepM]
    rw [hC, hR]
    refine .ite fun hP => .upd h _ ?_ (vflow_of_written (if_pos hP))
    rw [toRows_eq_gridOf _ _ _ hP.symm h.zero.1]
    exact gridOf_congr _ _ _ _ fun c r hc hr =>
      (Option.or_of_isSome (by rw [List.getElem?_eq_getElem (by rw [← hP]; exact rowMajor_cell_lt hc hr)]; rfl)).symm
  | copyFromTooDee src =>
    dsimp only [MOp.spec, MOp.gok, gstepM]
    rw [hC, hR]
    cases hsg : src.grid? with
    | none => exact .reject
    | some sg =>
      refine .ite fun hP => .upd h _ ?_ (vflow_of_written (by dsimp only [MOp.cellsWrittenV]; rw [hsg]; exact if_pos hP))
      obtain ⟨sv, hsv, rfl⟩ := src.grid?_eq_grid hsrc sg hsg
      rw [VW.grid_length, hsv.gcols_grid] at hP
      conv => lhs; rw [VW.grid, hP.1, hP.2]
      refine gridOf_congr _ _ _ _ fun c r hc hr => ?_
      rw [hsv.gcell_grid (hP.2 ▸ hc) (hP.1 ▸ hr)]
      exact (Option.or_of_isSome (hsv.cell_isSome (hP.2 ▸ hc) (hP.1 ▸ hr))).symm
  | copyWithin tl br dest =>
    dsimp only [MOp.spec, MOp.gok, gstepM]
    rw [hC, hR]
    refine .ite fun hP => .upd h _ (gridOf_congr _ _ _ _ fun c r hc hr => ?_) (vflow_of_written (if_pos hP))
    obtain ⟨h1, h2, h3, h4, _, _⟩ := hP
    unfold copyWithinCells
    split
    · rename_i hin
      have hc' := copyWithin_src_lt hin.1 hin.2.1 h3
      have hr' := copyWithin_src_lt hin.2.2.1 hin.2.2.2 h4
      rw [h.gcell_grid hc' hr']
      exact (Option.or_of_isSome (h.cell_isSome hc' hr')).symm
    · exact h.gcell_grid hc hr
  | translate mc mr =>
    dsimp only [MOp.spec, MOp.gok, gstepM]
    rw [hC, hR]
    exact .ite fun _ => .perm h _ (translateG_cellMap mc mr) translateG_cellInj
  | flipRows =>
    show Agrees v buf _ (.ok _) true (some (v.grid buf).reverse) {}
    rw [h.grid_reverse]
    exact .perm h _ (flipRowsG_cellMap _) flipRowsG_cellInj
  | flipCols =>
    show Agrees v buf _ (.ok _) true (some ((v.grid buf).map List.reverse)) {}
    rw [h.grid_map_reverse]
    exact .perm h _ (flipColsG_cellMap _) flipColsG_cellInj
  | sortRow side row =>
    by_cases hl : v.numCols ≤ lim
    case neg => rw [MOp.spec_sortRow_over_lim v lim buf side row (Nat.lt_of_not_le hl)]; exact .unfit hl
    dsimp only [MOp.spec, MOp.gok, gstepM]
    rw [hC, hR]
    by_cases hr : row < v.numRows
    · rw [if_pos (⟨hr, hl⟩ : row < v.numRows ∧ v.numCols ≤ lim), if_pos hr, decide_eq_true hr, Bool.true_and,
        VW.grid_row hr]
      exact .sort h hs _ (C16_key_row_length v buf h row hr) sortColsG (fun _ => sortColsG_cellMap) (fun _ => sortColsG_cellInj)
    · rw [if_neg (fun hc => hr hc.1), if_neg hr, decide_eq_false hr]
      exact .reject
  | sortCol side col =>
    by_cases hl : v.numRows ≤ lim
    case neg => rw [MOp.spec_sortCol_over_lim v lim buf side col (Nat.lt_of_not_le hl)]; exact .unfit hl
    dsimp only [MOp.spec, MOp.gok, gstepM]
    rw [hC, hR]
    by_cases hc : col < v.numCols
    · rw [if_pos (⟨hc, hl⟩ : col < v.numCols ∧ v.numRows ≤ lim), if_pos hc, decide_eq_true hc, Bool.true_and,
        h.grid_col hc]
      exact .sort h hs _ (h.colKeys_length hc) sortRowsG (fun _ => sortRowsG_cellMap) (fun _ => sortRowsG_cellInj)
    · rw [if_neg (fun hcc => hc hcc.1), if_neg hc, decide_eq_false hc]
      exact .reject

/-- a call the plain model does not accept leaves its rows of cells as they are -/
theorem hs_gok_false_gstepM (g : List (List α)) (op : MOp α) (hk : op.gok g = false) : gstepM g op = some g := by
  cases op with
  | fill x | flipRows | flipCols => cases hk
  | copyFromTooDee src =>
    dsimp only [MOp.gok] at hk
    dsimp only [gstepM]
    cases hsg : src.grid? with
    | none => rfl
    | some sg =>
      rw [hsg] at hk
      exact if_neg (of_decide_eq_false hk)
  | sortRow side row =>
    dsimp only [MOp.gok] at hk
    dsimp only [gstepM]
    by_cases hr : row < g.length
    · rw [decide_eq_true hr, Bool.true_and] at hk
      rw [if_pos hr]
      cases hs : side (g[row]?.getD []) with
      | ok p => rw [hs] at hk; cases hk
      | error e => rfl
    · exact if_neg hr
  | sortCol side col =>
    dsimp only [MOp.gok] at hk
    dsimp only [gstepM]
    by_cases hc : col < gcols g
    · rw [decide_eq_true hc, Bool.true_and] at hk
      rw [if_pos hc]
      cases hs : side (g.filterMap (·[col]?)) with
      | ok p => rw [hs] at hk; cases hk
      | error e => rfl
    · exact if_neg hc
  | _ => exact if_neg (of_decide_eq_false hk)

/-- `spec_agrees` for an owned array, the window `t.asView` of its own buffer -/
theorem inplace_agrees {t : TD α} (h : t.Inv) (lim : Nat) (op : MOp α) (hs : op.Sane) (hsrc : op.srcOk) :
    Agrees t.asView t.data (op.fitsLim t.numCols t.numRows lim) (op.spec t.asView lim t.data) (op.gok t.grid) (gstepM t.grid op)
      (vflow t.asView t.data op) := by
  rw [h.grid_eq_asView]
  exact spec_agrees h.asView lim op hs hsrc

/-- the flow `mflow` of a call on an owned array is `vflow` of the window the array is, up to the spelling of `copy_from_slice`'s
    guard and to what `fill` takes and drops on the side (its argument itself, on a view always, on an array when it is empty) -/
theorem mflow_conserves {t : TD α} (h : t.Inv) (op : MOp α) {d : List α}
    (hc : (vflow t.asView t.data op).Conserves t.data d) : (mflow t op).Conserves t.data d := by
  cases op with
  | fill x => exact hc.change_side _
  | copyFromSlice src =>
    dsimp only [vflow, MOp.cellsWrittenV] at hc
    dsimp only [mflow, MOp.cellsWritten]
    rw [h.len]
    exact hc
  | _ => exact hc

theorem mflow_leaked (t : TD α) (op : MOp α) : (mflow t op).leaked = [] := by
  unfold mflow
  cases op.cellsWritten t with
  | some f => rfl
  | none => cases op <;> rfl

theorem vflow_leaked (v : VW) (buf : List α) (op : MOp α) : (vflow v buf op).leaked = [] := by
  unfold vflow
  cases op.cellsWrittenV v buf with
  | some f => rfl
  | none => cases op <;> rfl

end Toodee
