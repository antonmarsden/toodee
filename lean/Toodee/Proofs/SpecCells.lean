import Toodee.Properties.C04Frame
import Toodee.Proofs.RunSpec
/-
  What a value of `MOp.spec` is: one of three shapes — rejected, a cell permutation that stays inside the view, an overwrite of
  cells — and the same shape on the owned copy of the view's cells (`MOp.SpecPair.of_spec`).  The owned copy is C04Frame's
  vocabulary:
  `v.ownedShape` (the shape), `v.cellsOf buf` (the cells), with `C04_frame_*` / `C04_same_effect_*` saying what each shape means.
  C04 reads its frame and same-effect claims off this analysis (`MOp.SpecPair.facts`); HistoryInplace uses it for the agreement with
  the plain model.
-/
namespace Toodee
variable {α : Type}

/-- `MOp.SpecPair v buf res res'`: `res` is the value of `op.spec` on `(v, buf)`, `res'` its value on the owned copy
    `(v.ownedShape, v.cellsOf buf)`; `upd` has two cell functions because `copy_within` reads its source cells through the
    receiver -/
inductive MOp.SpecPair (v : VW) (buf : List α) : Res (List α) → Res (List α) → Prop
  | panic : MOp.SpecPair v buf (.error .panic) (.error .panic)
  | perm {g : Nat × Nat → Nat × Nat} (hg : CellMap v.numCols v.numRows g) :
      MOp.SpecPair v buf (.ok (gather buf (v.mapCells g))) (.ok (gather (v.cellsOf buf) (v.ownedShape.mapCells g)))
  | upd {f f' : Nat × Nat → Option α} (hff : ∀ c r, c < v.numCols → r < v.numRows → f (c, r) = f' (c, r)) :
      MOp.SpecPair v buf (.ok (v.updCells buf f)) (.ok (v.ownedShape.updCells (v.cellsOf buf) f'))

theorem MOp.SpecPair.ite {v : VW} {buf : List α} {P : Prop} [Decidable P] {res res' : Res (List α)}
    (h : P → MOp.SpecPair v buf res res') :
    MOp.SpecPair v buf (if P then res else throw .panic) (if P then res' else throw .panic) := by
  by_cases hP : P
  · rw [if_pos hP, if_pos hP]; exact h hP
  · rw [if_neg hP, if_neg hP]; exact .panic

theorem MOp.SpecPair.sort {v : VW} {buf : List α} {side : SideSort α} (hs : side.Sane) {keys : List α} {k : Nat}
    (hk : keys.length = k) (G : List Nat → Nat × Nat → Nat × Nat)
    (hG : ∀ p, p.Perm (List.range k) → CellMap v.numCols v.numRows (G p)) :
    MOp.SpecPair v buf (side keys >>= fun p => pure (gather buf (v.mapCells (G p))))
      (side keys >>= fun p => pure (gather (v.cellsOf buf) (v.ownedShape.mapCells (G p)))) := by
  rcases hs keys with he | ⟨p, he, hp⟩
  · rw [he]; exact .panic
  · rw [he]; exact .perm (hG p (hk ▸ hp))

/-- what each shape means: the conclusion of `C04_view_op`, from `C04_frame_*` and `C04_same_effect_*` -/
theorem MOp.SpecPair.facts {v : VW} {buf : List α} (h : v.Inv buf.length) {res res' : Res (List α)}
    (hp : MOp.SpecPair v buf res res') :
    res ≠ .error .ub ∧ res ≠ .error .fuel ∧
    (∀ buf', res = .ok buf' → buf'.length = buf.length ∧ (∀ p, v.coord? p = none → buf'[p]? = buf[p]?) ∧
      res' = .ok (v.cellsOf buf')) ∧
    (∀ e, res = .error e → res' = .error e) := by
  cases hp with
  | panic => exact ⟨nofun, nofun, nofun, fun _ he => he⟩
  | @perm g hg =>
    obtain ⟨hl, hf, _⟩ := C04_frame_perm v buf h g hg
    refine ⟨nofun, nofun, fun b hb => ?_, nofun⟩
    obtain rfl := Except.ok.inj hb
    exact ⟨hl, hf, by rw [C04_same_effect_perm v buf h g hg]⟩
  | @upd f f' hff =>
    obtain ⟨hl, hf, _⟩ := C04_frame_upd v buf h f
    refine ⟨nofun, nofun, fun b hb => ?_, nofun⟩
    obtain rfl := Except.ok.inj hb
    rw [C04_same_effect_upd v buf h f]
    exact ⟨hl, hf, congrArg Except.ok (VW.updCells_congr v.ownedShape _ f' f (fun c r hc hr => (hff c r hc hr).symm))⟩

/-- the keys of a row are the same on the owned copy -/
theorem VW.Inv.rowKeys_cellsOf {v : VW} {buf : List α} (h : v.Inv buf.length) {row : Nat} (hr : row < v.numRows) :
    readWin (v.cellsOf buf) (v.ownedShape.rowWin row) = readWin buf (v.rowWin row) := by
  obtain ⟨_, hcell⟩ := v.cellsOf_facts buf h
  apply List.ext_getElem?
  intro i
  rw [VW.readWin_rowWin_getElem?, VW.readWin_rowWin_getElem?]
  show (if i < v.numCols then _ else _) = _
  by_cases hi : i < v.numCols
  · rw [if_pos hi, if_pos hi, VW.ownedShape_pos, hcell i row hi hr]
  · rw [if_neg hi, if_neg hi]

/-- … and so are the keys of a column -/
theorem VW.Inv.colKeys_cellsOf {v : VW} {buf : List α} (h : v.Inv buf.length) {c : Nat} (hc : c < v.numCols) :
    v.ownedShape.colKeys (v.cellsOf buf) c = v.colKeys buf c := by
  obtain ⟨_, hcell⟩ := v.cellsOf_facts buf h
  apply filterMap_congr_mem
  intro r hr
  rw [VW.ownedShape_pos, hcell c r hc (List.mem_range.1 hr)]

/-- the source coordinate of a destination coordinate `x` of `copy_within` lies in the source range `t..b`, hence below `C` -/
theorem copyWithin_src_lt {d x t b C : Nat} (hd : d ≤ x) (hx : x < d + (b - t)) (hb : b ≤ C) : x - d + t < C :=
  Nat.lt_of_lt_of_le (Nat.add_lt_of_lt_sub (Nat.sub_lt_left_of_lt_add hd hx)) hb

theorem VW.Inv.copyWithinCells_cellsOf {v : VW} {buf : List α} (h : v.Inv buf.length) (tl br dest : Nat × Nat)
    (hfit : rectsFit v.numCols v.numRows tl br dest) (c r : Nat) :
    copyWithinCells v buf tl br dest (c, r) = copyWithinCells v.ownedShape (v.cellsOf buf) tl br dest (c, r) := by
  obtain ⟨_, hcell⟩ := v.cellsOf_facts buf h
  obtain ⟨h1, h2, h3, h4, _, _⟩ := hfit
  unfold copyWithinCells
  by_cases hin : dest.1 ≤ c ∧ c < dest.1 + (br.1 - tl.1) ∧ dest.2 ≤ r ∧ r < dest.2 + (br.2 - tl.2)
  · rw [if_pos hin, if_pos hin, VW.ownedShape_pos,
      hcell _ _ (copyWithin_src_lt hin.1 hin.2.1 h3) (copyWithin_src_lt hin.2.2.1 hin.2.2.2 h4)]
  · rw [if_neg hin, if_neg hin]

/-- **every value of the specification is one of the three shapes**, on the view and on the owned copy of its cells alike -/
theorem MOp.SpecPair.of_spec {v : VW} {buf : List α} (h : v.Inv buf.length) (lim : Nat) (op : MOp α) (hs : op.Sane) :
    MOp.SpecPair v buf (op.spec v lim buf) (op.spec v.ownedShape lim (v.cellsOf buf)) := by
  cases op with
  | set c r x => exact .ite (fun _ => .upd (fun _ _ _ _ => rfl))
  | setInRow r c x => exact .ite (fun _ => .upd (fun _ _ _ _ => rfl))
  | fill x => exact .upd (fun _ _ _ _ => rfl)
  | swap c1 r1 c2 r2 => exact .ite (fun hv => .perm (swapCellG_cellMap hv.1 hv.2.1 hv.2.2.1 hv.2.2.2))
  | swapRows r1 r2 => exact .ite (fun hv => .perm (swapRowsG_cellMap hv.1 hv.2))
  | swapCols c1 c2 => exact .ite (fun hv => .perm (swapColsG_cellMap hv.1 hv.2))
  | copyFromSlice src => exact .ite (fun _ => .upd (fun _ _ _ _ => rfl))
  | copyFromTooDee src =>
    rw [MOp.spec_copyFromTooDee, MOp.spec_copyFromTooDee]
    cases src.grid? with
    | none => exact .panic
    | some sg => exact .ite (fun _ => .upd (fun _ _ _ _ => rfl))
  | copyWithin tl br dest =>
    exact .ite (fun hfit => .upd (fun c r _ _ => h.copyWithinCells_cellsOf tl br dest hfit c r))
  | translate mc mr => exact .ite (fun _ => .perm (translateG_cellMap mc mr))
  | flipRows => exact .perm (flipRowsG_cellMap _)
  | flipCols => exact .perm (flipColsG_cellMap _)
  | sortRow side row =>
    refine .ite (fun hv => ?_)
    show MOp.SpecPair v buf (side (readWin buf (v.rowWin row)) >>= _)
      (side (readWin (v.cellsOf buf) (v.ownedShape.rowWin row)) >>= _)
    rw [h.rowKeys_cellsOf hv.1]
    exact .sort hs (C16_key_row_length v buf h row hv.1) sortColsG (fun p hp => sortColsG_cellMap hp)
  | sortCol side c =>
    refine .ite (fun hv => ?_)
    show MOp.SpecPair v buf (side (v.colKeys buf c) >>= _) (side (v.ownedShape.colKeys (v.cellsOf buf) c) >>= _)
    rw [h.colKeys_cellsOf hv.1]
    exact .sort hs (C17_key_col_length v buf h c hv.1) sortRowsG (fun p hp => sortRowsG_cellMap hp)

end Toodee
