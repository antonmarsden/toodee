import Toodee.Proofs.GridLemmas
import Toodee.Proofs.SwapLemmas
import Toodee.Proofs.CopyLemmas
import Toodee.Proofs.TranslateLemmas
import Toodee.Proofs.ViewLemmas
import Toodee.Proofs.SortLemmas
import Toodee.Properties.C13
import Toodee.Properties.C16
import Toodee.Properties.C17
/-
  The central refinement behind C04 and C13 (dispatch): `Recv.run` on any sound receiver computes `MOp.spec` on the window the
  receiver stands for (an owned array: the whole-extent view `t.asView` of its own buffer), for every operation and *every*
  argument.  An assembly module: each arm of `MOp.spec` is read off the equation the library proves for the body that runs
  (SwapLemmas, CopyLemmas, TranslateLemmas, SortLemmas: `Acc.Of.swap_eq`, `TD.Inv.swap_eq`, `Acc.Of.copyWithin_eq`, …) or off the
  property theorem that carries the content (`C13_fill_*`, `C16_apply_col_perm`, `C17_apply_row_perm`,
  `C17_swap_rows_spec_*`).  What those leave open is here: the indexed writes, the source of `copy_from_toodee`, the shape of
  the sort arms, and what the bodies see of a receiver through its required methods (`Recv.Shows`: `Acc.Of` extended by the
  other required methods).  `Recv.Sound` and `Recv.asVW`, on which every statement rests, are defined in
  Proofs/ViewLemmas.lean.  Feeds C04, C13Dispatch, C11, C16Methods and the history files.
-/
namespace Toodee
variable {α : Type}

theorem VW.Inv.set_eq_updCells {v : VW} {buf : List α} (h : v.Inv buf.length) {c r : Nat} (hc : c < v.numCols)
    (hr : r < v.numRows) (x : α) :
    buf.set (v.pos c r) x = v.updCells buf (fun cr => if cr = (c, r) then some x else none) := by
  apply List.ext_getElem?
  intro p
  rw [List.getElem?_set]
  by_cases hp : v.pos c r = p
  · subst hp
    rw [if_pos rfl, if_pos (h.pos_lt hc hr), h.updCells_pos _ hc hr, if_pos rfl]
  · rw [if_neg hp, VW.updCells_getElem?]
    cases hq : v.coord? p with
    | none => simp
    | some cr =>
      have hne : cr ≠ (c, r) := fun heq => hp (VW.coord?_eq_some (heq ▸ hq)).1.symm
      simp [hne]

/-- left side: the `.set` arm of `Recv.run` after the accessor is rewritten with `Recv.Shows.cell` -/
theorem Recv.run_set_arm {v : VW} {buf : List α} (h : v.Inv buf.length) (lim : Nat) (c r : Nat) (x : α) :
    ((if c < v.numCols ∧ r < v.numRows then .ok (v.pos c r) else .error .panic : Res Nat) >>= fun p => pure (buf.set p x))
      = (MOp.set c r x).spec v lim buf := by
  show _ = if c < v.numCols ∧ r < v.numRows then _ else _
  by_cases hv : c < v.numCols ∧ r < v.numRows
  · rw [if_pos hv, if_pos hv, ok_bind, h.set_eq_updCells hv.1 hv.2]
  · rw [if_neg hv, if_neg hv]; rfl

/-- left side: the `.setInRow` arm of `Recv.run` after `Recv.Shows.rowMut` -/
theorem Recv.run_setInRow_arm {v : VW} {buf : List α} (h : v.Inv buf.length) (lim : Nat) (c r : Nat) (x : α) :
    ((if r < v.numRows then .ok (v.rowWin r) else .error .panic : Res Win) >>= fun w => w.index c >>= fun p =>
      pure (buf.set p x)) = (MOp.setInRow r c x).spec v lim buf := by
  show _ = if c < v.numCols ∧ r < v.numRows then _ else _
  by_cases hr : r < v.numRows
  · rw [if_pos hr, ok_bind, VW.rowWin_index]
    by_cases hc : c < v.numCols
    · rw [if_pos hc, if_pos ⟨hc, hr⟩, ok_bind, h.set_eq_updCells hc hr]
    · rw [if_neg hc, if_neg (fun hv => hc hv.1)]; rfl
  · rw [if_neg hr, if_neg (fun hv => hr hv.2)]; rfl

/-! The next three are `rfl`.  They are stated because their left sides occur under binders or several times in the goals below,
    where a `show` would have to repeat the whole goal, and because `rw [MOp.spec]` does not expose this arm (it is a `match`). -/

theorem MOp.spec_copyFromTooDee (v : VW) (lim : Nat) (buf : List α) (src : CopySrc α) :
    (MOp.copyFromTooDee src).spec v lim buf = match src.grid? with
      | some sg => if sg.length = v.numRows ∧ gcols sg = v.numCols then pure (v.updCells buf fun cr => gcell sg cr.1 cr.2)
          else throw .panic
      | none => throw .panic := rfl

theorem CopySrc.grid?_window (arr : TD α) (tl br : Nat × Nat) :
    (⟨arr, some (tl, br)⟩ : CopySrc α).grid? =
      if tl.1 ≤ br.1 ∧ tl.2 ≤ br.2 ∧ br.1 ≤ arr.numCols ∧ br.2 ≤ arr.numRows then
        some (gridOf (viewSize tl br).1 (viewSize tl br).2 fun c r => gcell arr.grid (tl.1 + c) (tl.2 + r))
      else none := rfl

theorem CopySrc.acc_window (m : Mode) (arr : TD α) (tl br : Nat × Nat) :
    (⟨arr, some (tl, br)⟩ : CopySrc α).acc m = arr.asView.view m tl br >>= fun v => v.acc m := rfl

/-- what the default body of `copy_from_toodee` sees of the source, against the grid the specification uses -/
theorem CopySrc.acc_cases (m : Mode) (src : CopySrc α) (hsrc : src.arr.Inv) :
    (src.grid? = none ∧ src.acc m = .error .panic) ∨
    (∃ sg sv sa, src.grid? = some sg ∧ src.acc m = .ok sa ∧ sv.Inv src.arr.data.length ∧
      sa.Of sv src.arr.data.length ∧ sg.length = sv.numRows ∧ gcols sg = sv.numCols ∧
      ∀ c r, c < sv.numCols → r < sv.numRows → gcell sg c r = src.arr.data[sv.pos c r]?) := by
  obtain ⟨arr, window⟩ := src
  have hvi := hsrc.asView
  have hpos := arr.asView_pos
  cases window with
  | none =>
    refine .inr ⟨arr.grid, arr.asView, arr.acc, rfl, rfl, hvi, Acc.Of.owned hsrc, hsrc.grid_length,
      hsrc.gcols_grid, fun c r hc hr => ?_⟩
    rw [hpos]
    exact hsrc.gcell_grid hc hr
  | some w =>
    obtain ⟨tl, br⟩ := w
    rw [CopySrc.grid?_window, CopySrc.acc_window, hvi.view_eq m tl br]
    cases hsv : specView arr.asView tl br with
    | none => exact .inl ⟨if_neg (show ¬ (_ ∧ _ ∧ _ ≤ arr.numCols ∧ _ ≤ arr.numRows) from specView_eq_none.1 hsv), rfl⟩
    | some v' =>
      obtain ⟨hok, hv', hsz, hcells⟩ := hvi.specView_some hsv
      obtain ⟨sa, e2, hsa⟩ := Acc.Of.view hv' m
      have hcell : ∀ c r, c < v'.numCols → r < v'.numRows →
          gcell arr.grid (tl.1 + c) (tl.2 + r) = arr.data[v'.pos c r]? := by
        intro c r hc hr
        obtain ⟨hlt, hp⟩ := hcells c r hc hr
        rw [hsrc.gcell_grid hlt.1 hlt.2, hp, hpos]
      have hsome : ∀ c r, c < v'.numCols → r < v'.numRows → (gcell arr.grid (tl.1 + c) (tl.2 + r)).isSome :=
        fun c r hc hr => hcell c r hc hr ▸ hv'.cell_isSome hc hr
      refine .inr ⟨gridOf v'.numCols v'.numRows (fun c r => gcell arr.grid (tl.1 + c) (tl.2 + r)), v', sa, ?_, e2, hv',
        hsa, gridOf_length .., gcols_gridOf _ _ _ hsome hv'.zero.2, fun c r hc hr => ?_⟩
      · rw [if_pos (show _ ∧ _ ∧ _ ≤ arr.numCols ∧ _ ≤ arr.numRows from hok), ← hsz]
      · rw [gcell_gridOf _ _ _ hsome hc hr, hcell c r hc hr]

/-- `copy_from_toodee` through either body `copy` (the default or the `TooDee` override: `Acc.Of/TD.Inv.copyFromTooDee_eq`) -/
theorem Recv.run_copyFromTooDee_arm {v : VW} (m : Mode) (lim : Nat) {buf : List α} {copy : Acc → List α → Res (List α)}
    (hcopy : ∀ (sv : VW) (sbuf : List α), sv.Inv sbuf.length → ∀ sa : Acc, sa.Of sv sbuf.length →
      copy sa sbuf = if v.numCols = sv.numCols ∧ v.numRows = sv.numRows then
        .ok (v.updCells buf fun cr => sbuf[sv.pos cr.1 cr.2]?) else .error .panic)
    (src : CopySrc α) (hsrc : src.arr.Inv) :
    (src.acc m >>= fun sa => copy sa src.arr.data) = (MOp.copyFromTooDee src).spec v lim buf := by
  rw [MOp.spec_copyFromTooDee]
  rcases CopySrc.acc_cases m src hsrc with ⟨hg, he⟩ | ⟨sg, sv, sa, hg, he, hsv, hsa, hl, hc, hcell⟩
  · rw [he, hg]; rfl
  · rw [he, ok_bind, hg, hcopy sv src.arr.data hsv sa hsa]
    show _ = if sg.length = v.numRows ∧ gcols sg = v.numCols then _ else _
    by_cases hd : v.numCols = sv.numCols ∧ v.numRows = sv.numRows
    · rw [if_pos hd, if_pos ⟨hl.trans hd.2.symm, hc.trans hd.1.symm⟩]
      refine congrArg Except.ok (VW.updCells_congr v buf _ _ (fun c r hc' hr' => ?_))
      exact (hcell c r (hd.1 ▸ hc') (hd.2 ▸ hr')).symm
    · rw [if_neg hd, if_neg (fun hv => hd ⟨hv.2.symm.trans hc, hv.1.symm.trans hl⟩)]
      rfl

/-- Both sort arms: the left side is what `Acc.Of.sortRowWith_eq` / `Acc.Of.sortColWith_eq` leave of the body, the right side the sort
    arm of `MOp.spec`; `k` = the length of the line.  `side.Sane` is what makes `apply` succeed on what `side` returns, and why
    `op.Sane` is a hypothesis of the whole refinement: on a `p` that is no permutation `build_swap_trace` ends in `ub` while the
    specification still `gather`s. -/
theorem SideSort.Sane.bind_apply {side : SideSort α} (hs : side.Sane) {P : Prop} [Decidable P] {keys : List α} {k : Nat}
    (hk : P → keys.length = k) {apply : List Nat → Res (List α)} {out : List Nat → List α}
    (happly : ∀ p, p.Perm (List.range k) → apply p = .ok (out p)) :
    (if P then side keys >>= apply else .error .panic) = if P then side keys >>= fun p => pure (out p) else throw .panic := by
  by_cases hP : P
  · rw [if_pos hP, if_pos hP]
    rcases hs keys with he | ⟨p, he, hp⟩
    · rw [he]; rfl
    · rw [he, ok_bind, ok_bind, happly p (hk hP ▸ hp)]; rfl
  · rw [if_neg hP, if_neg hP]; rfl

/-- `acc` reads the data only through its length -/
theorem TD.acc_withData (t : TD α) (b : List α) (hb : b.length = t.data.length) :
    ({ t with data := b } : TD α).acc = t.acc := by
  simp [TD.acc, TD.rows, TD.win, hb]

/-! ### `Recv.run` and the receiver's buffer

  `Recv.run m lim rc buf op` starts with `rc.setBuf buf`: an owned receiver's `data` field is overwritten by the `buf` argument and
  never read.  So the refinement is stated under `hb : rc.setBuf buf = rc` (`rfl` for a view; for an owned array: `buf` is its
  own data), and a call on `Recv.root t` may be moved to any array of the same dimensions. -/

theorem Recv.root_buf {t : TD α} {buf : List α} (hb : (Recv.root t).setBuf buf = .root t) : buf = t.data :=
  congrArg TD.data (Recv.root.inj hb)

theorem Recv.ext_buf {t : TD α} {buf : List α} (hb : (Recv.ext t).setBuf buf = .ext t) : buf = t.data :=
  congrArg TD.data (Recv.ext.inj hb)

theorem Recv.run_root_data (m : Mode) (lim : Nat) (t : TD α) (d' d : List α) (op : MOp α) :
    (Recv.root t).run m lim d op = (Recv.root { t with data := d' }).run m lim d op := rfl

theorem Recv.runAll_root_data (m : Mode) (lim : Nat) (t : TD α) (d' d : List α) (ops : List (MOp α)) :
    (Recv.root t).runAll m lim d ops = (Recv.root { t with data := d' }).runAll m lim d ops := by
  induction ops generalizing d with
  | nil => rfl
  | cons op ops ih =>
    show ((Recv.root t).run m lim d op >>= fun b => (Recv.root t).runAll m lim b ops) = _
    rw [Recv.run_root_data m lim t d', funext ih]
    rfl

/-! ### the refinement -/

/-- What the method bodies see of the receiver `rc` through its required methods: the window `v` of a root buffer of `n` cells.
    `acc` = `num_cols`, `num_rows`, `rows_mut` (`Acc.Of`), `cell` = `IndexMut<Coordinate>`, `rowMut` / `row` = `IndexMut<usize>` /
    `Index<usize>`, `rowU` = `get_unchecked_row_mut` (unchecked: nothing is said outside the window), `col` = `col`; `cell` and
    `rowMut` are stated for every argument because `self[(c, r)] = x` / `self[r][c] = x` call them with any. -/
structure Recv.Shows (m : Mode) (rc : Recv α) (v : VW) (n : Nat) : Prop where
  acc : ∃ a, rc.acc m = .ok a ∧ a.Of v n
  cell : ∀ c r, rc.indexCoordMut m c r = if c < v.numCols ∧ r < v.numRows then .ok (v.pos c r) else .error .panic
  rowMut : ∀ r, rc.indexRowMut m r = if r < v.numRows then .ok (v.rowWin r) else .error .panic
  row : ∀ r, r < v.numRows → rc.indexRow m r = .ok (v.rowWin r)
  rowU : ∀ r, r < v.numRows → rc.getRowMut m r = .ok (v.rowWin r)
  col : ∀ c, c < v.numCols → ∃ it, rc.col m c = .ok it ∧ it.WF v.numRows n ∧
    it.abs v.numRows = (List.range v.numRows).map fun r => v.pos c r

theorem Recv.Sound.shows {rc : Recv α} {n : Nat} (h : rc.Sound n) (m : Mode) : rc.Shows m rc.asVW n := by
  match rc, h with
  | .root t, ht | .ext t, ht =>
    obtain ⟨ht, rfl⟩ := ht
    have hv := ht.asView
    -- every accessor of an owned array except `col` is, by unfolding, that of `t.asView` (`TD.indexRow_asView` …)
    refine ⟨⟨_, rfl, Acc.Of.owned ht⟩, hv.indexCoord_eq m, hv.indexRow_eq m, fun _ hr => hv.indexRow_ok m hr,
      fun _ hr => hv.getUncheckedRow_ok m hr, fun c hc => ?_⟩
    obtain ⟨it, e, hwf, habs⟩ := ht.col_spec m c hc
    exact ⟨it, e, hwf, habs.trans (List.map_congr_left fun r _ => (TD.asView_pos t c r).symm)⟩
  | .vmut v, hv | .vsh v, hv =>
    exact ⟨Acc.Of.view hv m, hv.indexCoord_eq m, hv.indexRow_eq m, fun _ hr => hv.indexRow_ok m hr,
      fun _ hr => hv.getUncheckedRow_ok m hr, hv.col_spec m⟩

/-- `swap_rows` as dispatched (the `TooDee` override, the trait default, the `TooDeeViewMut` override) is what the column sorts
    need of it -/
theorem Recv.Sound.swapRows_spec {rc : Recv α} {n : Nat} (h : rc.Sound n) (m : Mode) :
    SwapRowsSpec rc.asVW n (rc.swapRows m) := by
  cases rc with
  | root t => obtain ⟨h, rfl⟩ := h; exact C17_swap_rows_spec_owned m t h
  | ext t =>
    obtain ⟨h, rfl⟩ := h
    intro b r1 r2 hb hr1 hr2
    show ({ t with data := b } : TD α).acc.swapRows m b r1 r2 = _
    rw [TD.acc_withData t b hb]
    exact C17_swap_rows_spec_default m t.asView t.data.length h.asView t.acc (Acc.Of.owned h) b r1 r2 hb hr1 hr2
  | vmut v | vsh v => exact C17_swap_rows_spec_view m v n h

/-- **the Impl-model refines the specification**: any operation with any arguments, on any receiver, both modes (`hb`: see above).
    The operations nobody overrides run one default body whatever the receiver; where `TooDee` overrides, the receiver decides. -/
theorem Recv.Sound.run_eq_spec {rc : Recv α} {buf : List α} (h : rc.Sound buf.length) (hb : rc.setBuf buf = rc)
    (m : Mode) (lim : Nat) (op : MOp α) (hs : op.Sane) (hsrc : op.srcOk) :
    rc.run m lim buf op = op.spec rc.asVW lim buf := by
  have S := h.shows m
  have hv := h.asVW
  obtain ⟨a, hacc, ha⟩ := S.acc
  unfold Recv.run
  rw [hb]
  cases op with
  -- no implementor overrides these: one default body through the receiver's accessors
  | set c r x =>
    show (rc.indexCoordMut m c r >>= fun p => pure (buf.set p x)) = _
    rw [S.cell]; exact Recv.run_set_arm hv lim c r x
  | setInRow r c x =>
    show (rc.indexRowMut m r >>= fun w => w.index c >>= fun p => pure (buf.set p x)) = _
    rw [S.rowMut]; exact Recv.run_setInRow_arm hv lim c r x
  | swapCols c1 c2 =>
    show (rc.acc m >>= fun a => a.swapCols buf c1 c2) = _
    rw [hacc, ok_bind]; exact ha.swapCols_eq hv c1 c2
  | copyWithin tl br dest =>
    show (rc.acc m >>= fun a => a.copyWithin m (rc.indexRowMut m) buf tl br dest) = _
    rw [hacc, ok_bind]
    exact ha.copyWithin_eq hv m _ (fun r hr => by rw [S.rowMut, if_pos hr]) tl br dest
  | translate mc mr =>
    show (rc.acc m >>= fun a => a.translateWithWrap m (rc.getRowMut m) buf (mc, mr)) = _
    rw [hacc, ok_bind]; exact ha.translateWithWrap_eq hv m _ (mc, mr) (fun _ _ => S.rowU)
  | flipRows =>
    show (rc.acc m >>= fun a => a.flipRows m buf) = _
    rw [hacc, ok_bind]; exact ha.flipRows_ok hv m
  | flipCols =>
    show (rc.acc m >>= fun a => a.flipCols buf) = _
    rw [hacc, ok_bind]; exact ha.flipCols_ok hv
  | sortRow side row =>
    show (rc.acc m >>= fun a => a.sortRowWith (rc.indexRow m) buf lim side row) = _
    rw [hacc, ok_bind, ha.sortRowWith_eq hv _ S.row]
    exact hs.bind_apply (fun hh => C16_key_row_length _ buf hv row hh.1) (C16_apply_col_perm _ buf hv a ha)
  | sortCol side c =>
    show (rc.acc m >>= fun a => a.sortColWith (rc.col m) (rc.swapRows m) buf lim side c) = _
    rw [hacc, ok_bind, ha.sortColWith_eq hv _ S.col]
    exact hs.bind_apply (fun hh => C17_key_col_length _ buf hv c hh.1)
      (C17_apply_row_perm _ buf hv _ (h.swapRows_spec m))
  -- `TooDee` overrides these (`swap_rows`: `TooDeeViewMut` too): the receiver decides which body runs
  | fill x =>
    cases rc with
    | root t =>
      obtain rfl := Recv.root_buf hb
      exact congrArg Except.ok (C13_fill_owned t h.1 x).1
    | _ =>
      show (Recv.acc m _ >>= fun a => a.fill buf x) = _
      rw [hacc, ok_bind]; exact C13_fill_default _ buf hv a ha x
  | swap c1 r1 c2 r2 =>
    cases rc with
    | root t =>
      obtain rfl := Recv.root_buf hb
      exact h.1.swap_eq m c1 r1 c2 r2
    | _ =>
      show (Recv.acc m _ >>= fun a => a.swap m buf (c1, r1) (c2, r2)) = _
      rw [hacc, ok_bind]; exact ha.swap_eq hv m c1 r1 c2 r2
  | copyFromSlice src =>
    cases rc with
    | root t =>
      obtain rfl := Recv.root_buf hb
      exact h.1.copyFromSlice_eq src
    | _ =>
      show (Recv.acc m _ >>= fun a => a.copyFromSlice m buf src) = _
      rw [hacc, ok_bind]; exact ha.copyFromSlice_eq hv m src
  | copyFromTooDee src =>
    cases rc with
    | root t =>
      obtain rfl := Recv.root_buf hb
      exact Recv.run_copyFromTooDee_arm m lim h.1.copyFromTooDee_eq src hsrc
    | _ =>
      show (src.acc m >>= fun sa => Recv.acc m _ >>= fun a => a.copyFromTooDee buf sa src.arr.data) = _
      rw [hacc]; exact Recv.run_copyFromTooDee_arm m lim (ha.copyFromTooDee_eq hv) src hsrc
  | swapRows r1 r2 =>
    cases rc with
    | root t =>
      obtain rfl := Recv.root_buf hb
      exact h.1.swapRows_eq m r1 r2
    | ext t =>
      obtain rfl := Recv.ext_buf hb
      exact (Acc.Of.owned h.1).swapRows_eq hv m r1 r2
    | vmut v | vsh v => exact hv.swapRows_eq m r1 r2

/-! ### a side sort that panics -/

/-- the specification of a sort whose side sort panics on the keys of the chosen line: a panic on every path -/
theorem MOp.spec_sortRow_panic {side : SideSort α} {k : Nat} {v : VW} (lim : Nat) {buf : List α}
    (hp : side (readWin buf (v.rowWin k)) = .error .panic) : (MOp.sortRow side k).spec v lim buf = .error .panic := by
  show (if k < v.numRows ∧ v.numCols ≤ lim then side (readWin buf (v.rowWin k)) >>= _ else _) = _
  rw [hp]; split <;> rfl

theorem MOp.spec_sortCol_panic {side : SideSort α} {k : Nat} {v : VW} (lim : Nat) {buf : List α}
    (hp : side (v.colKeys buf k) = .error .panic) : (MOp.sortCol side k).spec v lim buf = .error .panic := by
  show (if k < v.numCols ∧ v.numRows ≤ lim then side (v.colKeys buf k) >>= _ else _) = _
  rw [hp]; split <;> rfl

/-- … hence the call on any sound receiver (owned array, third-party implementor, view): `Recv.run` is the specification -/
theorem Recv.Sound.run_sortRow_panic {rc : Recv α} {buf : List α} (h : rc.Sound buf.length) (hb : rc.setBuf buf = rc)
    (m : Mode) (lim : Nat) {side : SideSort α} (hs : side.Sane) {k : Nat}
    (hp : side (readWin buf (rc.asVW.rowWin k)) = .error .panic) : rc.run m lim buf (.sortRow side k) = .error .panic :=
  (h.run_eq_spec hb m lim (.sortRow side k) hs trivial).trans (MOp.spec_sortRow_panic lim hp)

theorem Recv.Sound.run_sortCol_panic {rc : Recv α} {buf : List α} (h : rc.Sound buf.length) (hb : rc.setBuf buf = rc)
    (m : Mode) (lim : Nat) {side : SideSort α} (hs : side.Sane) {k : Nat}
    (hp : side (rc.asVW.colKeys buf k) = .error .panic) : rc.run m lim buf (.sortCol side k) = .error .panic :=
  (h.run_eq_spec hb m lim (.sortCol side k) hs trivial).trans (MOp.spec_sortCol_panic lim hp)

end Toodee
