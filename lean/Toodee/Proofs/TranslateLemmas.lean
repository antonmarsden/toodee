import Toodee.Proofs.Orbit
import Toodee.Proofs.SwapLemmas
/-
  The loops of src/translate.rs (`flip_rows`, the rotate-while-swapping step, the inner and the outer loop of
  `translate_with_wrap`) as cell permutations; the number theory of the cycle-leader loop is in `Toodee/Proofs/Orbit.lean`.
  Every loop keeps a statement `Rearranged v buf G cur` (`cur` is `buf` with the cells of `v` rearranged by the cell map `G`),
  and each primitive step (`rotate_left`, `swap_with_slice` on row windows) composes one more cell map onto `G`.
  At the end the equations of the three operations: `Acc.Of.flipRows_ok`, `Acc.Of.flipCols_ok` (per-row `reverse`, no loop invariant),
  `Acc.Of.translateWithWrap_eq`, and before the loops the `X_cellMap` / `X_cellInj` of `translateG`, `flipRowsG`, `flipColsG`.
-/
namespace Toodee
variable {α : Type}

theorem tr_cols_le {v : VW} {n : Nat} (h : v.Inv n) (hr : 0 < v.numRows) : v.numCols ≤ n := by
  have hl := h.len
  rw [if_neg (by omega)] at hl
  have h1 := h.inside
  omega

/-- `cur` is `buf` with the cells of `v` rearranged: the new cell `(c, r)` is the old cell `G (c, r)` -/
structure Rearranged (v : VW) (buf : List α) (G : Nat × Nat → Nat × Nat) (cur : List α) : Prop where
  cells : CellMap v.numCols v.numRows G
  eq : cur = gather buf (v.mapCells G)

theorem Rearranged.refl {v : VW} (buf : List α) {G : Nat × Nat → Nat × Nat}
    (hG : ∀ c r, c < v.numCols → r < v.numRows → G (c, r) = (c, r)) : Rearranged v buf G buf :=
  ⟨fun c r hc hr => by rw [hG c r hc hr]; exact ⟨hc, hr⟩, (gather_mapCells_eq_self buf G hG).symm⟩

theorem Rearranged.length {v : VW} {buf cur : List α} {G : Nat × Nat → Nat × Nat} (h : v.Inv buf.length)
    (hc : Rearranged v buf G cur) : cur.length = buf.length := by
  rw [hc.eq]; exact h.gather_mapCells_length G hc.cells

theorem Rearranged.congr {v : VW} {buf cur : List α} {G G' : Nat × Nat → Nat × Nat} (hc : Rearranged v buf G cur)
    (he : ∀ c r, c < v.numCols → r < v.numRows → G (c, r) = G' (c, r)) : Rearranged v buf G' cur :=
  ⟨fun c r hcc hr => by rw [← he c r hcc hr]; exact hc.cells c r hcc hr,
    hc.eq.trans (gather_mapCells_congr buf G G' he)⟩

/-- one more cell permutation `g` applied to the rearranged buffer: the new cell `(c, r)` is the old cell `G (g (c, r))` -/
theorem Rearranged.gather {v : VW} {buf cur : List α} {G : Nat × Nat → Nat × Nat} (h : v.Inv buf.length)
    (hc : Rearranged v buf G cur) {g : Nat × Nat → Nat × Nat}
    (hg : CellMap v.numCols v.numRows g) :
    Rearranged v buf (fun cr => G (g cr)) (gather cur (v.mapCells g)) :=
  ⟨hc.cells.comp hg, by rw [hc.eq, h.gather_mapCells_comp G g hc.cells hg]⟩

theorem translateG_cellMap {C R : Nat} (mc mr : Nat) : CellMap C R (translateG C R mc mr) :=
  fun _ _ hc hr => ⟨Nat.mod_lt _ (Nat.zero_lt_of_lt hc), Nat.mod_lt _ (Nat.zero_lt_of_lt hr)⟩

theorem translateG_cellInj {C R mc mr : Nat} : CellInj C R (translateG C R mc mr) := by
  intro c r c' r' hc hr hc' hr' he
  simp only [translateG, Prod.mk.injEq] at he
  rw [add_mod_inj hc hc' he.1, add_mod_inj hr hr' he.2]

theorem flipRowsG_cellMap (C : Nat) {R : Nat} : CellMap C R (flipRowsG R) :=
  fun _ _ hc hr => ⟨hc, Nat.sub_one_sub_lt_of_lt hr⟩

theorem flipRowsG_cellInj {C R : Nat} : CellInj C R (flipRowsG R) := by
  intro c r c' r' _ hr _ hr' he
  simp only [flipRowsG, Prod.mk.injEq] at he
  rw [he.1, mirror_inj hr hr' he.2]

theorem flipColsG_cellMap {C : Nat} (R : Nat) : CellMap C R (flipColsG C) :=
  fun _ _ hc hr => ⟨Nat.sub_one_sub_lt_of_lt hc, hr⟩

theorem flipColsG_cellInj {C R : Nat} : CellInj C R (flipColsG C) := by
  intro c r c' r' hc _ hc' _ he
  simp only [flipColsG, Prod.mk.injEq] at he
  rw [mirror_inj hc hc' he.1, he.2]

/-- rows `< t` and `≥ R - t` are flipped already -/
def flipPrefG (R t : Nat) : Nat × Nat → Nat × Nat :=
  fun cr => if cr.2 < t ∨ R ≤ cr.2 + t then (cr.1, R - 1 - cr.2) else cr

/-- exchanging rows `t` and `R - 1 - t` -/
theorem flipPrefG_succ {R t k : Nat} (htk : t + (k + 2) + t = R) (c r : Nat) :
    flipPrefG R t (swapRowsG t (t + 1 + k) (c, r)) = flipPrefG R (t + 1) (c, r) := by
  have hm : t + (t + 1 + k) + 1 = R := by omega
  by_cases h1 : r = t
  · subst h1
    have e : swapIdx r (r + 1 + k) r = r + 1 + k := by rw [swapIdx, if_pos rfl]
    simp only [flipPrefG, swapRowsG, e]
    rw [if_neg (by omega), if_pos (.inl (Nat.lt_succ_self r)), mirror_eq hm]
  · by_cases h2 : r = t + 1 + k
    · subst h2
      have e : swapIdx t (t + 1 + k) (t + 1 + k) = t := by rw [swapIdx, if_neg h1, if_pos rfl]
      simp only [flipPrefG, swapRowsG, e]
      rw [if_neg (by omega), if_pos (.inr (by omega)), mirror_eq (Nat.add_comm t _ ▸ hm)]
    · have e : swapIdx t (t + 1 + k) r = r := by rw [swapIdx, if_neg h1, if_neg h2]
      simp only [flipPrefG, swapRowsG, e]
      by_cases h3 : r < t ∨ R ≤ r + t
      · rw [if_pos h3, if_pos (by omega)]
      · rw [if_neg h3, if_neg (by omega)]

/-- `swap_with_slice` of two row windows of the view -/
theorem VW.Inv.swapWithSlice_rows {v : VW} {cur : List α} (h : v.Inv cur.length) {r1 r2 : Nat} (hr1 : r1 < v.numRows)
    (hr2 : r2 < v.numRows) :
    swapWithSlice cur (v.rowWin r1) (v.rowWin r2) = .ok (gather cur (v.mapCells (swapRowsG r1 r2))) :=
  (swapWithSlice_ok cur (a := v.rowWin r1) (b := v.rowWin r2) rfl).trans
    (congrArg Except.ok (h.gather_swapRows hr1 hr2))

/-- Rows `< t` and `≥ R - t` are flipped already, the cursor stands for the `k` rows `t … t+k-1` in between
    (`t + k + t = R`); an iteration takes one row from each end, so a unit of fuel serves two rows. -/
theorem flipRowsLoop_ok {v : VW} {buf : List α} (h : v.Inv buf.length) (m : Mode) :
    ∀ (fuel t k : Nat) (it : Rows) (cur : List α), it.WF k buf.length →
      it.abs k = (List.range' t k).map v.rowWin → t + k + t = v.numRows → k < 2 * fuel →
      Rearranged v buf (flipPrefG v.numRows t) cur →
      flipRowsLoop m fuel it cur = .ok (gather buf (v.mapCells (flipRowsG v.numRows))) := by
  intro fuel
  induction fuel with
  | zero => intro t k _ _ _ _ _ hf; exact absurd hf (Nat.not_lt_zero k)
  | succ fuel ih =>
    intro t k it cur hwf habs htk hf hcur
    obtain ⟨it1, hn, hwf1, _, habs1⟩ := Rows.next_spec hwf
    obtain ⟨it2, hb, hwf2, _, habs2⟩ := Rows.nextBack_spec hwf1 m
    rw [habs1] at hb habs2
    rw [habs] at hn hb habs2
    rw [flipRowsLoop, hn]
    simp only [ok_bind]
    rw [hb]
    simp only [ok_bind]
    -- with at most one row left, the middle row (if any) is its own mirror image
    have hdone : k ≤ 1 → (pure cur : Res (List α)) = .ok (gather buf (v.mapCells (flipRowsG v.numRows))) := by
      intro hk
      refine congrArg Except.ok (hcur.congr (fun c r _ hr => ?_)).eq
      simp only [flipPrefG, flipRowsG]
      split
      · rfl
      · rw [mirror_eq (r' := r) (by omega)]
    rcases k with _ | _ | k
    · exact hdone (Nat.zero_le 1)
    · exact hdone (Nat.le_refl 1)
    · have hl : (List.range' t (k + 2)).map v.rowWin =
          v.rowWin t :: ((List.range' (t + 1) k).map v.rowWin ++ [v.rowWin (t + 1 + k)]) := by
        rw [List.range'_succ, List.range'_1_concat, List.map_cons, List.map_append]; rfl
      rw [hl] at habs2 ⊢
      simp only [List.head?_cons, List.tail_cons, List.getLast?_concat, List.dropLast_concat] at habs2 ⊢
      rw [VW.Inv.swapWithSlice_rows (hcur.length h ▸ h) (r1 := t) (r2 := t + 1 + k) (by omega) (by omega)]
      simp only [ok_bind]
      exact ih (t + 1) k it2 _ hwf2 habs2 (by omega) (by omega)
        ((hcur.gather h (swapRowsG_cellMap (by omega) (by omega))).congr
          (fun c r _ _ => flipPrefG_succ htk c r))

/-- `next := rotl(base, mid)`, `base := rotr(next, mid)` -/
def swapRotG (C b n mid : Nat) : Nat × Nat → Nat × Nat := fun cr =>
  if cr.2 = n then ((cr.1 + mid) % C, b)
  else if cr.2 = b then ((cr.1 + (C - mid)) % C, n)
  else cr

theorem swapRotG_cellMap {C R b n : Nat} (mid : Nat) (hb : b < R) (hn : n < R) : CellMap C R (swapRotG C b n mid) := by
  intro c r hc hr
  simp only [swapRotG]
  split
  · exact ⟨Nat.mod_lt _ (Nat.zero_lt_of_lt hc), hb⟩
  · split
    · exact ⟨Nat.mod_lt _ (Nat.zero_lt_of_lt hc), hn⟩
    · exact ⟨hc, hr⟩

/-- position map of the two `swap_with_slice` of `swapRotate` on rows of length `mid + e` that start at `ob` (base) and `ox`
    (next): the first exchanges the first `mid` cells of base with the last `mid` of next, the second the other `e` cells -/
def swapRotMap (ob ox mid e : Nat) : Nat → Nat := fun p =>
  swapWinMap ⟨ob, mid⟩ ⟨ox + e, mid⟩ (swapWinMap ⟨ob + mid, e⟩ ⟨ox, e⟩ p)

/-- cell `c` of base receives cell `(c + e) % (mid + e)` of next -/
theorem swapRotMap_base {ob ox mid e c : Nat} (hd : ob + (mid + e) ≤ ox ∨ ox + (mid + e) ≤ ob) (hc : c < mid + e) :
    swapRotMap ob ox mid e (ob + c) = ox + (c + e) % (mid + e) := by
  simp only [swapRotMap]
  by_cases hcm : c < mid
  · -- one of the first `mid` cells: outside the inner pair of windows, in the first window of the outer pair
    rw [Nat.mod_eq_of_lt (Nat.add_lt_add_right hcm e), swapWinMap_not (p := ob + c) (by omega) (by omega),
      swapWinMap_fst ⟨Nat.le_add_right _ _, Nat.add_lt_add_left hcm _⟩, Nat.add_sub_cancel_left, Nat.add_assoc,
      Nat.add_comm e]
  · -- cell `mid + d`, one of the last `e`: the inner pair sends it to cell `d` of next, which the outer pair leaves
    obtain ⟨d, rfl⟩ : ∃ d, c = mid + d := ⟨c - mid, by omega⟩
    rw [mod_eq_of_eq_add (y := d) (by omega) (by omega), ← Nat.add_assoc,
      swapWinMap_fst (p := ob + mid + d) ⟨Nat.le_add_right _ _, by omega⟩, Nat.add_sub_cancel_left,
      swapWinMap_not (by omega) (by omega)]

/-- cell `c` of next receives cell `(c + mid) % (mid + e)` of base -/
theorem swapRotMap_next {ob ox mid e c : Nat} (hd : ob + (mid + e) ≤ ox ∨ ox + (mid + e) ≤ ob) (hc : c < mid + e) :
    swapRotMap ob ox mid e (ox + c) = ob + (c + mid) % (mid + e) := by
  simp only [swapRotMap]
  by_cases hce : c < e
  · -- one of the first `e` cells: the inner pair sends it to cell `mid + c` of base, which the outer pair leaves
    rw [Nat.mod_eq_of_lt (by omega),
      swapWinMap_snd (p := ox + c) (by omega) ⟨Nat.le_add_right _ _, Nat.add_lt_add_left hce _⟩,
      Nat.add_sub_cancel_left, swapWinMap_not (by omega) (by omega), Nat.add_assoc, Nat.add_comm mid]
  · -- cell `e + d`, one of the last `mid`: outside the inner pair of windows, in the second window of the outer pair
    obtain ⟨d, rfl⟩ : ∃ d, c = e + d := ⟨c - e, by omega⟩
    rw [mod_eq_of_eq_add (y := d) (by omega) (by omega), ← Nat.add_assoc,
      swapWinMap_not (p := ox + e + d) (by omega) (by omega),
      swapWinMap_snd (by omega) ⟨Nat.le_add_right _ _, by omega⟩, Nat.add_sub_cancel_left]

theorem swapRotMap_else {ob ox mid e p : Nat} (hb : ¬ (ob ≤ p ∧ p < ob + (mid + e)))
    (hx : ¬ (ox ≤ p ∧ p < ox + (mid + e))) : swapRotMap ob ox mid e p = p := by
  simp only [swapRotMap]
  rw [swapWinMap_not (p := p) (by omega) (by omega), swapWinMap_not (by omega) (by omega)]

theorem VW.Inv.swapRot_eq_mapCells {v : VW} {n : Nat} (h : v.Inv n) {b x mid e : Nat} (hb : b < v.numRows)
    (hx : x < v.numRows) (hne : b ≠ x) (hme : mid + e = v.numCols) (p : Nat) :
    swapRotMap (v.pos 0 b) (v.pos 0 x) mid e p = v.mapCells (swapRotG (mid + e) b x mid) p := by
  have hd : ∀ {r r'}, r ≠ r' → v.pos 0 r + (mid + e) ≤ v.pos 0 r' ∨ v.pos 0 r' + (mid + e) ≤ v.pos 0 r :=
    fun hrr => hme ▸ h.rowWin_disjoint hrr
  have hnone : ∀ {r}, r < v.numRows → v.coord? p = none → ¬ (v.pos 0 r ≤ p ∧ p < v.pos 0 r + (mid + e)) :=
    fun hr hq => hme ▸ (Win.contains_eq_false_iff _ _).1 (h.rowWin_contains_of_none hr hq)
  rcases v.cell_cases p with hq | ⟨c, r, hc, hr, rfl, hq⟩
  · rw [VW.mapCells_of_none _ hq]; exact swapRotMap_else (hnone hb hq) (hnone hx hq)
  · rw [← hme] at hc
    rw [VW.mapCells_of_some _ hq, ← VW.pos_zero_add v c r]
    simp only [swapRotG, Nat.add_sub_cancel_left]
    by_cases h1 : r = x
    · subst h1
      rw [if_pos rfl, swapRotMap_next (hd hne) hc]
      exact VW.pos_zero_add v _ b
    · rw [if_neg h1]
      by_cases h2 : r = b
      · subst h2
        rw [if_pos rfl, swapRotMap_base (hd hne) hc]
        exact VW.pos_zero_add v _ x
      · rw [if_neg h2]
        exact (swapRotMap_else (by have := hd h2; omega) (by have := hd h1; omega)).trans (VW.pos_zero_add v c r)

/-- `swapRotate` once `row_pair_mut` has handed out the windows `wb`, `wx` of the two rows, `mid + e` long and inside the
    buffer -/
theorem swapRotate_eq (m : Mode) (a : Acc) (cur : List α) {b x mid e : Nat} {wb wx : Win}
    (hpair : a.rowPairMut m b x = .ok (wb, wx)) (hlb : wb.len = mid + e) (hlx : wx.len = mid + e)
    (hib : wb.off + (mid + e) ≤ cur.length) (hix : wx.off + (mid + e) ≤ cur.length) (he : 0 < e) :
    swapRotate m a cur b x mid (mid + e) = .ok (gather cur (swapRotMap wb.off wx.off mid e)) := by
  have hsub : usub m (mid + e) mid = .ok e := by rw [usub_ok m (Nat.le_add_right _ _), Nat.add_sub_cancel_left]
  have g1 : wb.getTo mid = .ok ⟨wb.off, mid⟩ := Win.getTo_ok (hlb ▸ Nat.le_add_right mid e)
  have g2 : wx.getRange e (mid + e) = .ok ⟨wx.off + e, mid⟩ := by
    rw [Win.getRange_ok (Nat.le_add_left _ _) (Nat.le_of_eq hlx.symm), Nat.add_sub_cancel]
  have g3 : wb.getRange mid (mid + e) = .ok ⟨wb.off + mid, e⟩ := by
    rw [Win.getRange_ok (Nat.le_add_right _ _) (Nat.le_of_eq hlb.symm), Nat.add_sub_cancel_left]
  have g4 : wx.getTo e = .ok ⟨wx.off, e⟩ := Win.getTo_ok (hlx ▸ Nat.le_add_left e mid)
  rw [swapRotate, hpair]
  simp only [ok_bind, pure_bind, g1, g2, g3, g4, hsub, if_pos (Nat.lt_add_of_pos_right he), swapWithSlice_ok]
  -- the code's `if mid > 0` around the first `swap_with_slice`
  split
  · rw [gather_gather cur _ _ (fun p hp => swapWinMap_lt (by omega) (by omega) hp)
      (fun p hp => swapWinMap_lt (by omega) (by omega) hp)]
    rfl
  · -- `mid = 0`: the first swap, which the code skips, would exchange two empty windows
    exact congrArg Except.ok (gather_congr cur _ _ (fun p _ => (swapWinMap_not (by omega) (by omega)).symm))

theorem swapRotate_ok {v : VW} {cur : List α} (h : v.Inv cur.length) {a : Acc} (ha : a.Of v cur.length) (m : Mode)
    {b x mid : Nat} (hb : b < v.numRows) (hx : x < v.numRows) (hne : b ≠ x) (hmid : mid < v.numCols) :
    swapRotate m a cur b x mid v.numCols = .ok (gather cur (v.mapCells (swapRotG v.numCols b x mid))) := by
  obtain ⟨e, hme⟩ : ∃ e, mid + e = v.numCols := ⟨v.numCols - mid, by omega⟩
  have hpair : a.rowPairMut m b x = .ok (v.rowWin b, v.rowWin x) := by
    rw [ha.rowPairMut_eq m, if_pos ⟨hb, hx, hne⟩]
  rw [← hme, swapRotate_eq m a cur hpair hme.symm hme.symm (hme ▸ h.rowWin_inside hb)
    (hme ▸ h.rowWin_inside hx) (by omega)]
  exact congrArg Except.ok (gather_congr cur _ _ (fun p _ => h.swapRot_eq_mapCells hb hx hne hme p))

/-- the row state: row `r` holds old row `src r` rotated left by `rot r` -/
def rowG (C : Nat) (src rot : Nat → Nat) : Nat × Nat → Nat × Nat :=
  fun cr => ((cr.1 + rot cr.2) % C, src cr.2)

def updateAt (f : Nat → Nat) (i x : Nat) : Nat → Nat := fun j => if j = i then x else f j

theorem updateAt_same (f : Nat → Nat) (i x : Nat) : updateAt f i x i = x := by simp [updateAt]
theorem updateAt_ne {f : Nat → Nat} {i j x : Nat} (h : j ≠ i) : updateAt f i x j = f j := by simp [updateAt, h]

theorem rowG_shift (C : Nat) (src rot : Nat → Nat) (c k r : Nat) :
    rowG C src rot ((c + k) % C, r) = ((c + (rot r + k)) % C, src r) := by
  simp only [rowG, Nat.mod_add_mod, Nat.add_assoc, Nat.add_comm k]

theorem rowG_swapRot {C b x mid : Nat} (hne : b ≠ x) (src rot : Nat → Nat) (cr : Nat × Nat) :
    rowG C src rot (swapRotG C b x mid cr) =
      rowG C (updateAt (updateAt src x (src b)) b (src x))
        (updateAt (updateAt rot x ((rot b + mid) % C)) b ((rot x + (C - mid)) % C)) cr := by
  obtain ⟨c, r⟩ := cr
  simp only [swapRotG]
  by_cases h1 : r = x
  · subst h1
    have hrb : r ≠ b := fun e => hne e.symm
    rw [if_pos rfl, rowG_shift, rowG, updateAt_ne hrb, updateAt_same, updateAt_ne hrb, updateAt_same,
      Nat.add_mod_mod]
  · rw [if_neg h1]
    by_cases h2 : r = b
    · subst h2
      rw [if_pos rfl, rowG_shift, rowG, updateAt_same, updateAt_same, Nat.add_mod_mod]
    · rw [if_neg h2, rowG, rowG, updateAt_ne h2, updateAt_ne h1, updateAt_ne h2, updateAt_ne h1]

theorem rowG_rotRow {C b mid : Nat} (src rot : Nat → Nat) (cr : Nat × Nat) :
    rowG C src rot (onRow b (fun c => (c + mid) % C) cr) =
      rowG C src (updateAt rot b ((rot b + mid) % C)) cr := by
  obtain ⟨c, r⟩ := cr
  simp only [onRow]
  by_cases h1 : r = b
  · subst h1
    rw [if_pos rfl, rowG_shift, rowG, updateAt_same, Nat.add_mod_mod]
  · rw [if_neg h1, rowG, rowG, updateAt_ne h1]

/-- the row state after the rotate-while-swapping of rows `b` (base) and `x` (next) -/
theorem Rearranged.swapRotate {v : VW} {buf cur : List α} (h : v.Inv buf.length) {src rot : Nat → Nat}
    (hc : Rearranged v buf (rowG v.numCols src rot) cur) {b x : Nat} (mid : Nat) (hb : b < v.numRows)
    (hx : x < v.numRows) (hne : b ≠ x) :
    Rearranged v buf (rowG v.numCols (updateAt (updateAt src x (src b)) b (src x))
      (updateAt (updateAt rot x ((rot b + mid) % v.numCols)) b ((rot x + (v.numCols - mid)) % v.numCols)))
      (Toodee.gather cur (v.mapCells (swapRotG v.numCols b x mid))) :=
  (hc.gather h (swapRotG_cellMap mid hb hx)).congr (fun c r _ _ => rowG_swapRot hne src rot (c, r))

/-- the `rotate_left` that closes a cycle (skipped when `mid = 0`, where it would change nothing) on the row state -/
theorem Rearranged.rotate {v : VW} {buf cur : List α} (h : v.Inv buf.length) {src rot : Nat → Nat}
    (hc : Rearranged v buf (rowG v.numCols src rot) cur) {getRowMut : Nat → Res Win} {b mid : Nat}
    (hget : getRowMut b = .ok (v.rowWin b)) (hb : b < v.numRows) (hmid : mid < v.numCols) :
    ∃ cur', (if mid > 0 then getRowMut b >>= fun w => rotateLeftWin cur w mid else pure cur) = .ok cur' ∧
      Rearranged v buf (rowG v.numCols src (updateAt rot b ((rot b + mid) % v.numCols))) cur' := by
  by_cases hm0 : mid > 0
  · rw [if_pos hm0, hget, ok_bind, h.rotateLeftWin_row cur hb (Nat.le_of_lt hmid)]
    exact ⟨_, rfl, (hc.gather h (onRow_cellMap _ (fun c _ => Nat.mod_lt _ (by omega)))).congr
      (fun c r _ _ => rowG_rotRow src rot (c, r))⟩
  · rw [if_neg hm0]
    refine ⟨cur, rfl, hc.congr (fun c r _ _ => ?_)⟩
    simp only [rowG, updateAt]
    split
    · next e => rw [e, show mid = 0 by omega, Nat.add_zero, Nat.add_mod_mod]
    · rfl

/-- reduction modulo `C` by one conditional subtraction, in the shape `let mid ← if … ; rest` elaborates to -/
theorem wrapSub_bind (m : Mode) {y C : Nat} (h : y < 2 * C) {β : Type} (f : Nat → Res β) :
    (if y ≥ C then usub m y C >>= f else f y) = f (y % C) := by
  by_cases hy : y ≥ C
  · rw [if_pos hy, usub_ok m hy, ok_bind, Nat.mod_eq_sub_mod hy, Nat.mod_eq_of_lt (by omega)]
  · rw [if_neg hy, Nat.mod_eq_of_lt (Nat.not_le.1 hy)]

/-- the row advance of src/translate.rs:115-117: `(x + A) % R` formed without exceeding `R`, where `A = R - mr` -/
theorem nextRow_ok (m : Mode) {x R mr A : Nat} (hx : x < R) (hA : A + mr = R) (hR : R < WORD) :
    (if x ≥ mr then usub m x mr else uadd m x A) = .ok ((x + A) % R) := by
  by_cases h : x ≥ mr
  · obtain ⟨y, rfl⟩ : ∃ y, x = mr + y := ⟨x - mr, by omega⟩
    rw [if_pos h, usub_ok m h, Nat.add_sub_cancel_left, mod_eq_of_eq_add (y := y) (by omega) (by omega)]
  · rw [if_neg h, uadd_ok m (by omega), Nat.mod_eq_of_lt (by omega)]

/-- the iteration that closes the cycle: `next_row` is back at `base_row` -/
theorem translateInner_close (m : Mode) (a : Acc) (getRowMut : Nat → Res Win) {C R mc mr A fuel : Nat} {buf : List α}
    {mid sc b : Nat} (hb : b < R) (hsc : sc + 1 < WORD) :
    translateInner m a getRowMut C R mc mr A b (fuel + 1) buf mid b sc =
      (if mid > 0 then getRowMut b >>= fun w => rotateLeftWin buf w mid else pure buf) >>= fun buf =>
      pure (buf, sc + 1) := by
  rw [translateInner, if_neg (Nat.not_le.2 hb)]
  simp only [pure_bind, uadd_ok m hsc, ok_bind, if_true, Res.ite_bind, bind_assoc]

/-- an iteration with `next_row = x` another row: rotate-while-swapping, then `mid` and `next_row` advance modulo `C`, `R` -/
theorem translateInner_step (m : Mode) (a : Acc) (getRowMut : Nat → Res Win) {C R mc mr A : Nat} (fuel : Nat)
    (buf : List α) {mid sc b x : Nat} (hx : x < R) (hne : b ≠ x) (hsc : sc + 1 < WORD) (hmid : mid + mc < 2 * C)
    (hCw : 2 * C < WORD) (hA : A + mr = R) (hRw : R < WORD) :
    translateInner m a getRowMut C R mc mr A b (fuel + 1) buf mid x sc =
      swapRotate m a buf b x mid C >>= fun buf =>
      translateInner m a getRowMut C R mc mr A b fuel buf ((mid + mc) % C) ((x + A) % R) (sc + 1) := by
  rw [translateInner, if_neg (Nat.not_le.2 hx)]
  simp only [pure_bind, uadd_ok m hsc, ok_bind, if_neg hne, uadd_ok m (Nat.lt_trans hmid hCw), ← Res.ite_bind,
    wrapSub_bind m hmid, nextRow_ok m hx hA hRw]

/-- the state of row `r`, which holds old row `s` rotated left by `t`: final if `done`, untouched otherwise -/
structure RowOk (R mr mc : Nat) (done : Prop) (r s t : Nat) : Prop where
  final : done → s = (r + mr) % R ∧ t = mc
  untouched : ¬ done → s = r ∧ t = 0

/-- row `x` joins the finished rows -/
theorem RowOk.insert {R mr mc r x s t : Nat} {P Q : Prop} (hQ : Q ↔ P ∨ r = x)
    (hx : r = x → s = (r + mr) % R ∧ t = mc) (hne : r ≠ x → RowOk R mr mc P r s t) : RowOk R mr mc Q r s t := by
  by_cases hrx : r = x
  · exact ⟨fun _ => hx hrx, fun hq => absurd (hQ.2 (Or.inr hrx)) hq⟩
  · exact ⟨fun hq => (hne hrx).final ((hQ.1 hq).resolve_right hrx),
      fun hq => (hne hrx).untouched (fun hp => hq (hQ.2 (Or.inl hp)))⟩

/-- One cycle.  `b` is the base row, `L` the length of its cycle, `S` the rows finished by earlier cycles.  After `j` steps
    row `b` holds the old row `orbitRow j`, the rows `orbitRow 1 … orbitRow j` are finished, `mid` is what row `b` is still
    short of `mc`, and `d + 1` steps remain.  The caller's fuel `num_rows + 2` suffices because a cycle has `L ≤ R` steps. -/
theorem translateInner_spec {v : VW} {buf : List α} (h : v.Inv buf.length) {a : Acc} (ha : a.Of v buf.length) (m : Mode)
    {getRowMut : Nat → Res Win} (hget : ∀ r, r < v.numRows → getRowMut r = .ok (v.rowWin r))
    {mc mr A : Nat} (hmc : mc < v.numCols) (hmr0 : 0 < mr) (hA0 : 0 < A) (hA : A + mr = v.numRows)
    {b L : Nat} (hb : b < v.numRows) {S : List Nat}
    (hret : orbitRow v.numRows A b L = b)
    (hinj : ∀ {j k}, j < k → k < L → orbitRow v.numRows A b j ≠ orbitRow v.numRows A b k)
    (hS : ∀ k, orbitRow v.numRows A b k ∉ S) :
    ∀ (fuel d j : Nat) (cur : List α) (src rot : Nat → Nat) (mid sc : Nat),
      j + 1 + d = L → d < fuel → sc + d + 1 < WORD →
      Rearranged v buf (rowG v.numCols src rot) cur →
      (∀ r, r < v.numRows → r ≠ b → RowOk v.numRows mr mc (r ∈ S ++ orbitRows v.numRows A b j) r (src r) (rot r)) →
      src b = orbitRow v.numRows A b j → (rot b + mid) % v.numCols = mc → mid < v.numCols →
      ∃ cur' src' rot',
        translateInner m a getRowMut v.numCols v.numRows mc mr A b fuel cur mid (orbitRow v.numRows A b (j + 1)) sc
          = .ok (cur', sc + d + 1) ∧
        Rearranged v buf (rowG v.numCols src' rot') cur' ∧
        ∀ r, r < v.numRows → RowOk v.numRows mr mc (r ∈ S ++ orbitRows v.numRows A b L) r (src' r) (rot' r) := by
  have hR : 0 < v.numRows := hA ▸ Nat.add_pos_left hA0 mr
  have hC : 0 < v.numCols := Nat.zero_lt_of_lt hmc
  have hRw := h.rows_word
  have hCw : 2 * v.numCols < WORD := h.two_cols_word (hA ▸ Nat.add_le_add hA0 hmr0)
  intro fuel
  induction fuel with
  | zero => intro d _ _ _ _ _ _ _ hfuel; exact absurd hfuel (Nat.not_lt_zero d)
  | succ fuel ih =>
    intro d j cur src rot mid sc hjL hfuel hsc hcur hrows hsb hrm hmid
    have hx : orbitRow v.numRows A b (j + 1) < v.numRows := orbitRow_lt hR
    -- row `orbitRow (j+1)` is to receive the old row `orbitRow j`, which row `b` holds
    have hfeed : src b = (orbitRow v.numRows A b (j + 1) + mr) % v.numRows := hsb.trans (orbitRow_pred b j hA hR)
    have hmem : ∀ r, r ∈ S ++ orbitRows v.numRows A b (j + 1) ↔
        r ∈ S ++ orbitRows v.numRows A b j ∨ r = orbitRow v.numRows A b (j + 1) := by
      intro r; rw [orbitRows_succ, ← List.append_assoc, List.mem_append, List.mem_singleton]
    rcases d with _ | d
    · -- the cycle closes: the rotate gives row `b` its final content
      have hxb : orbitRow v.numRows A b (j + 1) = b := by rw [hjL]; exact hret
      rw [hxb] at hfeed hmem ⊢
      obtain ⟨cur', hrot, hcur'⟩ := hcur.rotate h (hget b hb) hb hmid
      rw [translateInner_close m a getRowMut hb hsc, hrot, ← hjL]
      refine ⟨cur', src, _, rfl, hcur', fun r hr => RowOk.insert (hmem r) (fun e => ?_) (fun e => ?_)⟩
      · rw [e, updateAt_same]; exact ⟨hfeed, hrm⟩
      · rw [updateAt_ne e]; exact hrows r hr e
    · -- one more rotate-while-swapping step
      have hj1 : j + 1 < L := by omega
      have hne : b ≠ orbitRow v.numRows A b (j + 1) :=
        fun e => hinj (Nat.succ_pos j) hj1 ((orbitRow_zero hb).trans e)
      -- row `orbitRow (j+1)` is still untouched
      have hfr := (hrows _ hx (fun e => hne e.symm)).untouched (fun hin => by
        rcases List.mem_append.1 hin with hin | hin
        · exact hS _ hin
        · obtain ⟨k, hk0, hkj, hk⟩ := mem_orbitRows.1 hin
          exact hinj (Nat.lt_succ_of_le hkj) hj1 hk.symm)
      have hl := hcur.length h
      have hsc' : sc + 1 + d + 1 < WORD := Nat.add_right_comm sc (d + 1) 1 ▸ hsc
      rw [translateInner_step m a getRowMut fuel cur hx hne (by omega) (by omega) hCw hA hRw,
        swapRotate_ok (hl ▸ h) (hl ▸ ha) m hb hx hne hmid, ← orbitRow_succ, Nat.add_right_comm sc (d + 1) 1]
      refine ih d (j + 1) _ _ _ _ (sc + 1) (by omega) (Nat.lt_of_succ_lt_succ hfuel) hsc'
        (hcur.swapRotate h mid hb hx hne)
        (fun r hr hrb => ?_) ?_ ?_ (Nat.mod_lt _ hC)
      · rw [updateAt_ne hrb, updateAt_ne hrb]
        refine RowOk.insert (hmem r) (fun e => ?_) (fun e => ?_)
        · rw [e, updateAt_same, updateAt_same]; exact ⟨hfeed, hrm⟩
        · rw [updateAt_ne e, updateAt_ne e]; exact hrows r hr hrb
      · rw [updateAt_same]; exact hfr.1
      · rw [updateAt_same, hfr.2, Nat.zero_add, ← Nat.add_mod, ← Nat.add_assoc, Nat.sub_add_cancel (Nat.le_of_lt hmid),
          Nat.add_mod_left, Nat.mod_eq_of_lt hmc]

/-- `i` cycles are finished (`S` lists their rows), `swap_count = i * L`, the next base row is `i` -/
theorem translateOuter_loop {v : VW} {buf : List α} (h : v.Inv buf.length) {a : Acc} (ha : a.Of v buf.length) (m : Mode)
    {getRowMut : Nat → Res Win} (hget : ∀ r, r < v.numRows → getRowMut r = .ok (v.rowWin r))
    {mc mr A : Nat} (hmc : mc < v.numCols) (hmr0 : 0 < mr) (hA0 : 0 < A) (hA : A + mr = v.numRows)
    {g L : Nat} (of : OrbitFacts v.numRows A g L) :
    ∀ (fuel i : Nat) (cur : List α) (src rot : Nat → Nat) (S : List Nat),
      i < g → g ≤ i + fuel → Rearranged v buf (rowG v.numCols src rot) cur → Cycles v.numRows g L i S →
      (∀ r, r < v.numRows → RowOk v.numRows mr mc (r ∈ S) r (src r) (rot r)) →
      translateOuter m a getRowMut v.numCols v.numRows mc mr A fuel cur (i * L) i =
        .ok (gather buf (v.mapCells (translateG v.numCols v.numRows mc mr))) := by
  have hR : 0 < v.numRows := by omega
  have hRw := h.rows_word
  -- `L + 1` for `L`: the inner loop is entered with `L` steps remaining after its first one
  obtain ⟨L, rfl⟩ : ∃ L', L = L' + 1 := ⟨L - 1, by have := (of.pos hR).2; omega⟩
  -- `g ∣ mr`, so a base row `i < g` has `i + A < R`
  have hgmr : g ≤ mr :=
    Nat.le_of_dvd hmr0 ((Nat.dvd_add_right of.dvd_step).1 (hA ▸ ⟨L + 1, of.card_mul.symm⟩))
  have hLpos : ∀ n : Nat, n < n + (L + 1) := fun n => Nat.lt_add_of_pos_right (Nat.succ_pos L)
  intro fuel
  induction fuel with
  | zero => intro i _ _ _ _ hi hf; exact absurd (Nat.lt_of_lt_of_le hi hf) (Nat.lt_irrefl i)
  | succ fuel ih =>
    intro i cur src rot S hig hfuel hcur hS hrows
    have hiA : i + A < v.numRows := by omega
    have hiR : i < v.numRows := Nat.lt_of_le_of_lt (Nat.le_add_right i A) hiA
    have hcount := of.mul_le hig
    have hfi := (hrows i hiR).untouched (by have := hS.not_mem of hig 0; rwa [orbitRow_zero hiR] at this)
    obtain ⟨cur', src', rot', hinner, hcur', hrows'⟩ :=
      translateInner_spec h ha m hget hmc hmr0 hA0 hA hiR (of.returns i hiR) (fun hjk hk => of.injective i hjk (by omega))
        (hS.not_mem of hig) (v.numRows + 2) L 0 cur src rot mc (i * (L + 1)) (Nat.add_comm _ _) (by omega)
        (Nat.lt_of_le_of_lt hcount hRw) hcur
        (fun r hr _ => by rw [orbitRows, List.range_zero, List.map_nil, List.append_nil]; exact hrows r hr)
        (by rw [orbitRow_zero hiR]; exact hfi.1) (by rw [hfi.2, Nat.zero_add]; exact Nat.mod_eq_of_lt hmc) hmc
    rw [translateOuter, if_pos (Nat.lt_of_lt_of_le (hLpos _) hcount), uadd_ok m (Nat.lt_trans hiA hRw)]
    simp only [ok_bind]
    rw [show i + A = orbitRow v.numRows A i (0 + 1) by rw [orbitRow, Nat.zero_add, Nat.one_mul, Nat.mod_eq_of_lt hiA],
      hinner]
    simp only [ok_bind]
    rw [show i * (L + 1) + L + 1 = (i + 1) * (L + 1) from (Nat.succ_mul i (L + 1)).symm]
    have hS' := hS.succ of hig hR
    by_cases hlast : i + 1 = g
    · -- all rows are finished
      rw [if_pos (by rw [hlast, of.card_mul]; exact Nat.le_refl _)]
      refine congrArg Except.ok (hcur'.congr (fun c r _ hr => ?_)).eq
      have hd := (hrows' r hr).final ((hlast ▸ hS').full of.card_mul r hr)
      simp only [rowG, translateG, hd.1, hd.2]
    · have hi1 : i + 1 < g := Nat.lt_of_le_of_ne hig hlast
      rw [if_neg (Nat.not_le.2 (Nat.lt_of_lt_of_le (hLpos _) (of.mul_le hi1))),
        uadd_ok m (Nat.lt_of_le_of_lt hiR hRw)]
      simp only [ok_bind]
      exact ih (i + 1) cur' src' rot' _ hi1 (by omega) hcur' hS' hrows'

/-- the outer loop from its start: no row touched, `swap_count = 0`, base row `0` -/
theorem translateOuter_ok {v : VW} {buf : List α} (h : v.Inv buf.length) {a : Acc} (ha : a.Of v buf.length) (m : Mode)
    {getRowMut : Nat → Res Win} (hget : ∀ r, r < v.numRows → getRowMut r = .ok (v.rowWin r))
    {mc mr A : Nat} (hmc : mc < v.numCols) (hmr0 : 0 < mr) (hA0 : 0 < A) (hA : A + mr = v.numRows)
    {g L : Nat} (of : OrbitFacts v.numRows A g L) :
    translateOuter m a getRowMut v.numCols v.numRows mc mr A (v.numRows + 2) buf 0 0 =
      .ok (gather buf (v.mapCells (translateG v.numCols v.numRows mc mr))) := by
  have hR : 0 < v.numRows := by omega
  have hout := translateOuter_loop h ha m hget hmc hmr0 hA0 hA of (v.numRows + 2) 0 buf (fun r => r) (fun _ => 0) []
    (of.pos hR).1 (by have := Nat.le_of_dvd hR ⟨L, of.card_mul.symm⟩; omega)
    (.refl buf (fun c r hc _ => by simp only [rowG, Nat.add_zero, Nat.mod_eq_of_lt hc])) Cycles.zero
    (fun r _ => ⟨fun hin => absurd hin List.not_mem_nil, fun _ => ⟨rfl, rfl⟩⟩)
  rwa [Nat.zero_mul] at hout

/-- `flip_rows` (src/translate.rs:145-150) of a receiver -/
theorem Acc.Of.flipRows_ok {a : Acc} {v : VW} {buf : List α} (ha : a.Of v buf.length) (h : v.Inv buf.length) (m : Mode) :
    a.flipRows m buf = .ok (gather buf (v.mapCells (flipRowsG v.numRows))) := by
  unfold Acc.flipRows
  refine flipRowsLoop_ok h m _ 0 v.numRows a.rows buf ha.wf ?_ (by omega)
    (by have := Rows.WF.le_len ha.wf; omega)
    (.refl buf (fun c r _ hr => by simp only [flipPrefG]; rw [if_neg (by omega)]))
  rw [ha.abs, List.range_eq_range']; rfl

/-- `flip_cols` (src/translate.rs:162-166) of a receiver: `reverse` on every row -/
theorem Acc.Of.flipCols_ok {a : Acc} {v : VW} {buf : List α} (ha : a.Of v buf.length) (h : v.Inv buf.length) :
    a.flipCols buf = .ok (gather buf (v.mapCells (flipColsG v.numCols))) := by
  unfold Acc.flipCols
  rw [ha.collect_rows]
  simp only [ok_bind]
  -- the pure `foldl` as a `foldlM`, the form `VW.Inv.foldlM_rows_perm` is stated for
  rw [← List.foldlM_pure, List.foldlM_map]
  exact h.foldlM_rows_perm (fun b r => pure (gather b (revMap (v.rowWin r)))) (fun c => v.numCols - 1 - c)
    (fun c hc => by omega)
    (fun b r _ hr => congrArg Except.ok (gather_congr b _ _ (fun p _ => h.revMap_eq_mapCells hr p))) buf rfl

/-- a `mid` beyond the size panics (before anything is touched) -/
theorem Acc.translateWithWrap_panic (m : Mode) (a : Acc) (getRowMut : Nat → Res Win) (buf : List α) (mid : Nat × Nat)
    (hbad : ¬ (mid.1 ≤ a.numCols ∧ mid.2 ≤ a.numRows)) :
    a.translateWithWrap m getRowMut buf mid = .error .panic := by
  simp only [Acc.translateWithWrap, guard_bind]
  by_cases h1 : mid.1 ≤ a.numCols
  · rw [if_pos h1, if_neg fun h2 => hbad ⟨h1, h2⟩]
  · rw [if_neg h1]

/-- **`translate_with_wrap` for every `mid`**, on the dimensions of the receiver.  The row accessor `get_unchecked_row_mut` is
    called on the cycle-leader path only, so `hget` (discharged by `VW.Inv.getUncheckedRow_ok`) is asked for `0 < mid.2 < num_rows` only. -/
theorem Acc.Of.translateWithWrap_eq {a : Acc} {v : VW} {buf : List α} (ha : a.Of v buf.length) (h : v.Inv buf.length)
    (m : Mode) (getRowMut : Nat → Res Win) (mid : Nat × Nat)
    (hget : 0 < mid.2 → mid.2 < v.numRows → ∀ r, r < v.numRows → getRowMut r = .ok (v.rowWin r)) :
    a.translateWithWrap m getRowMut buf mid =
      if mid.1 ≤ v.numCols ∧ mid.2 ≤ v.numRows then
        .ok (gather buf (v.mapCells (translateG v.numCols v.numRows mid.1 mid.2)))
      else .error .panic := by
  by_cases hm : mid.1 ≤ v.numCols ∧ mid.2 ≤ v.numRows
  case neg => rw [if_neg hm]; exact Acc.translateWithWrap_panic m a getRowMut buf mid (by rw [ha.cols, ha.rows]; exact hm)
  rw [if_pos hm]
  generalize hmc : (if mid.1 = v.numCols then 0 else mid.1) = mc
  have hle : mc ≤ v.numCols := by rw [← hmc]; split <;> omega
  have hmod : ∀ c, (c + mc) % v.numCols = (c + mid.1) % v.numCols := fun c => hmc ▸ add_norm_mod c mid.1 v.numCols
  by_cases hr : mid.2 = 0 ∨ mid.2 = v.numRows
  · -- the column-only fast path (`row_mid == 0` after normalisation): every row is rotated by `mc`
    have hrow : (if mid.2 = v.numRows then 0 else mid.2) = 0 := by
      rcases hr with h | h
      · rw [h]; split <;> rfl
      · rw [if_pos h]
    have htgt : ∀ c r, c < v.numCols → r < v.numRows →
        ((c + mc) % v.numCols, r) = translateG v.numCols v.numRows mid.1 mid.2 (c, r) := by
      intro c r _ hr'
      rw [hmod, translateG, ← add_norm_mod r mid.2, hrow, Nat.add_zero, Nat.mod_eq_of_lt hr']
    unfold Acc.translateWithWrap
    simp only [ha.cols, ha.rows, hm.1, hm.2, hrow, hmc, not_true_eq_false, if_false, if_true]
    by_cases hc0 : mc = 0
    · simp only [hc0, ne_eq, not_true_eq_false, if_false, pure_eq]
      refine congrArg Except.ok (gather_mapCells_eq_self buf _ (fun c r hc hr' => ?_)).symm
      rw [← htgt c r hc hr', hc0, Nat.add_zero, Nat.mod_eq_of_lt hc]
    · simp only [hc0, ne_eq, not_false_eq_true, if_true]
      rw [ha.collect_rows]
      simp only [ok_bind]
      have hC : 0 < v.numCols := Nat.pos_of_ne_zero fun h0 => hc0 (Nat.le_zero.1 (h0 ▸ hle))
      rw [List.foldlM_map, h.foldlM_rows_perm _ (fun c => (c + mc) % v.numCols) (fun _ _ => Nat.mod_lt _ hC)
        (fun b r _ hr' => h.rotateLeftWin_row b hr' hle) buf rfl]
      exact congrArg Except.ok (gather_mapCells_congr buf _ _ htgt)
  · -- the cycle-leader loops, on the `gcd` cycles of equal length of `r ↦ (r + A) % R`
    have hm0 : 0 < mid.2 := Nat.pos_of_ne_zero fun h0 => hr (.inl h0)
    have hR : 0 < v.numRows := Nat.lt_of_lt_of_le hm0 hm.2
    have hC : 0 < v.numCols := h.cols_pos hR
    obtain ⟨A, hA⟩ : ∃ A, A + mid.2 = v.numRows := ⟨v.numRows - mid.2, Nat.sub_add_cancel hm.2⟩
    have hA0 : 0 < A := Nat.pos_of_ne_zero fun h0 => hr (.inr (by rw [← hA, h0, Nat.zero_add]))
    have hout := translateOuter_ok h ha m (hget hm0 (Nat.lt_of_le_of_ne hm.2 fun e => hr (.inr e)))
      (mc := mc) (by rw [← hmc]; split <;> omega) hm0 hA0 hA (OrbitFacts.of_gcd (A := A) hR)
    unfold Acc.translateWithWrap
    simp only [ha.cols, ha.rows, hm.1, hm.2, hmc, not_true_eq_false, if_false]
    rw [if_neg (fun e => hr (.inr e)), if_neg (fun e => hr (.inl e)), usub_ok m hm.2,
      show v.numRows - mid.2 = A by rw [← hA, Nat.add_sub_cancel]]
    simp only [ok_bind]
    rw [hout]
    exact congrArg Except.ok (gather_mapCells_congr buf _ _ (fun c r _ _ => by simp only [translateG, hmod]))

end Toodee
