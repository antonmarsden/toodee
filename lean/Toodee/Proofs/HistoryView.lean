import Toodee.Proofs.HistoryInplace
import Toodee.Properties.C04
/-
  Lemmas for C01 / C05 (histories): a block of calls on a mutable view of the owned array (`HOp.viaView`).  First the block as
  the caller runs it (`Recv.runKeep`: its equations, and `_append` / `_cut` for a block cut short by a failing call, C01_block_prefix);
  then `BlockOk` sums it up call by call (`block_ok`, from C04_run_view: each call is its specification, and `spec_agrees`: the
  specification against the plain model and the flow); last, what `hstep` / `hres` / `hflow` are for a block whose window is valid
  (`viaView_valid`) or not (`viaView_invalid`).  Placing the window in the array: `Placed` (HistoryInplace).
-/
namespace Toodee
variable {α : Type}

theorem Recv.runKeep_ok {m : Mode} {lim : Nat} {rc : Recv α} {buf b : List α} {op : MOp α} (ops : List (MOp α))
    (hr : rc.run m lim buf op = .ok b) : rc.runKeep m lim buf (op :: ops) = rc.runKeep m lim b ops := by
  rw [Recv.runKeep, hr]

theorem Recv.runKeep_err {m : Mode} {lim : Nat} {rc : Recv α} {buf : List α} {op : MOp α} {er : Err} (ops : List (MOp α))
    (hr : rc.run m lim buf op = .error er) : rc.runKeep m lim buf (op :: ops) = (buf, .error er) := by
  rw [Recv.runKeep, hr]
  rfl

theorem hv_runKeep_runAll (m : Mode) (lim : Nat) (rc : Recv α) (ops : List (MOp α)) (buf b : List α) :
    rc.runKeep m lim buf ops = (b, .ok ()) ↔ rc.runAll m lim buf ops = .ok b := by
  induction ops generalizing buf with
  | nil =>
    show (buf, (Except.ok () : Res Unit)) = (b, .ok ()) ↔ (Except.ok buf : Res (List α)) = .ok b
    exact ⟨fun h => by rw [(Prod.mk.inj h).1], fun h => by rw [Except.ok.inj h]⟩
  | cons op ops ih =>
    have hstep : rc.runAll m lim buf (op :: ops) = (rc.run m lim buf op >>= fun b' => rc.runAll m lim b' ops) := rfl
    cases hr : rc.run m lim buf op with
    | ok b' => rw [Recv.runKeep_ok ops hr, hstep, hr, ok_bind]; exact ih b'
    | error er =>
      rw [Recv.runKeep_err ops hr, hstep, hr, err_bind]
      constructor
      · intro h
        cases (Prod.mk.inj h).2
      · nofun

theorem Recv.runKeep_append (m : Mode) (lim : Nat) (rc : Recv α) (pre l : List (MOp α)) (buf b : List α)
    (hpre : rc.runKeep m lim buf pre = (b, .ok ())) : rc.runKeep m lim buf (pre ++ l) = rc.runKeep m lim b l := by
  induction pre generalizing buf with
  | nil =>
    rw [(Prod.mk.inj hpre).1]
    rfl
  | cons op pre ih =>
    cases hr : rc.run m lim buf op with
    | ok b' =>
      rw [Recv.runKeep_ok pre hr] at hpre
      rw [List.cons_append, Recv.runKeep_ok _ hr]
      exact ih b' hpre
    | error er =>
      rw [Recv.runKeep_err pre hr] at hpre
      cases (Prod.mk.inj hpre).2

theorem Recv.runKeep_cut (m : Mode) (lim : Nat) (rc : Recv α) (pre rest : List (MOp α)) (bad : MOp α) (buf b : List α)
    (hpre : rc.runKeep m lim buf pre = (b, .ok ())) (hbad : (rc.runKeep m lim b [bad]).2 ≠ .ok ()) :
    rc.runKeep m lim buf (pre ++ bad :: rest) = (b, (rc.runKeep m lim b [bad]).2) := by
  rw [Recv.runKeep_append m lim rc pre _ buf b hpre]
  cases hr : rc.run m lim b bad with
  | ok b' =>
    rw [Recv.runKeep_ok [] hr] at hbad
    exact absurd rfl hbad
  | error er => rw [Recv.runKeep_err rest hr, Recv.runKeep_err [] hr]

theorem gblock_cons (g : List (List α)) (op : MOp α) (ops : List (MOp α)) :
    gblock g (op :: ops) = if op.gok g = true then (gstepM g op).bind fun g' => gblock g' ops else some g := rfl

theorem vflowRun_cons (m : Mode) (lim : Nat) (v : VW) (buf : List α) (op : MOp α) (ops : List (MOp α)) :
    vflowRun m lim v buf (op :: ops) =
      match (Recv.vmut v).run m lim buf op with
      | .ok b => (vflow v buf op).append (vflowRun m lim v b ops)
      | .error _ => errFlow op := rfl

/-- what the history theorems say of a block of calls on the window `v` of the root buffer `buf`: the buffer keeps its length and
    everything outside the window, the block never ends in `ub`, its flow conserves the buffer and leaks nothing, and the window's
    rows of cells follow the plain model's block — every accepted call acts as `gstepM` says, the first call that is not accepted
    panics on the view too and ends the block there (only this last field needs the side table to be large enough) -/
structure BlockOk (lim : Nat) (v : VW) (buf : List α) (ops : List (MOp α)) (r : List α × Res Unit) (F : Flow α) : Prop where
  len : r.1.length = buf.length
  frame : ∀ p, v.coord? p = none → r.1[p]? = buf[p]?
  res : r.2 ≠ .error .ub ∧ r.2 ≠ .error .fuel
  flow : F.Conserves buf r.1
  leak : F.leaked = []
  grid : (∀ op ∈ ops, op.fitsLim v.numCols v.numRows lim) →
    ∀ sub', gblock (v.grid buf) ops = some sub' → v.grid r.1 = sub'

/-- for every block of sane calls on a window, the block as the caller runs it is a `BlockOk` -/
theorem block_ok {v : VW} {buf : List α} (h : v.Inv buf.length) (m : Mode) (lim : Nat) (ops : List (MOp α))
    (hs : ∀ op ∈ ops, op.Sane ∧ op.srcOk) :
    BlockOk lim v buf ops ((Recv.vmut v).runKeep m lim buf ops) (vflowRun m lim v buf ops) := by
  -- by cases on the specification of the head call: C04_run_view turns it into the run, `spec_agrees` into the plain model and the
  -- flow; the rest of the block runs on the new buffer, which has the old length (`l1`)
  induction ops generalizing buf with
  | nil => exact ⟨rfl, fun _ _ => rfl, ⟨nofun, nofun⟩, Flow.conserves_of_perm (List.Perm.refl _), rfl,
      fun _ _ hg => Option.some.inj hg⟩
  | cons op ops ih =>
    obtain ⟨hsop, hsrc⟩ := hs op (List.mem_cons_self ..)
    have hrs := C04_run_view m lim v buf h op hsop hsrc
    obtain ⟨_, _, f3⟩ := C04_spec_frame lim v buf h op hsop
    have ha := spec_agrees h lim op hsop hsrc
    cases hsp : op.spec v lim buf with
    | error er =>
      rw [hsp] at hrs ha
      obtain ⟨rfl, hk⟩ := ha
      rw [Recv.runKeep_err ops hrs, vflowRun_cons, hrs]
      refine ⟨rfl, fun _ _ => rfl, ⟨nofun, nofun⟩, (errFlow_conserves buf op).1, (errFlow_conserves buf op).2,
        fun hl sub' hg => ?_⟩
      rw [gblock_cons, hk (hl op (List.mem_cons_self ..))] at hg
      exact Option.some.inj hg
    | ok b =>
      rw [hsp] at hrs ha
      obtain ⟨hk, hg1, hF⟩ := ha
      obtain ⟨l1, l2⟩ := f3 b hsp
      have ih' := ih (buf := b) (by rw [l1]; exact h) fun op' hop' => hs op' (List.mem_cons_of_mem _ hop')
      rw [Recv.runKeep_ok ops hrs, vflowRun_cons, hrs]
      refine ⟨ih'.len.trans l1, fun p hp => (ih'.frame p hp).trans (l2 p hp), ih'.res, hF.trans ih'.flow, ?_,
        fun hl sub' hg => ?_⟩
      · show (vflow v buf op).leaked ++ (vflowRun m lim v b ops).leaked = []
        rw [vflow_leaked, ih'.leak]
        rfl
      · rw [gblock_cons, hk, if_pos rfl] at hg
        cases hgs : gstepM (v.grid buf) op with
        | none => rw [hgs] at hg; cases hg
        | some g1 =>
          rw [hgs] at hg
          refine ih'.grid (fun op' hop' => hl op' (List.mem_cons_of_mem _ hop')) sub' ?_
          rw [hg1 g1 hgs]
          exact hg

theorem viaView_valid (e : HEnv) (t : TD α) {s e' : Nat × Nat} {v : VW} (hv : VW.fromTooDee e.m s e' t = .ok v)
    (ops : List (MOp α)) :
    hstep e t (.viaView s e' ops) = { t with data := ((Recv.vmut v).runKeep e.m e.lim t.data ops).1 } ∧
    hres e t (.viaView s e' ops) = ((Recv.vmut v).runKeep e.m e.lim t.data ops).2 ∧
    hflow e t (.viaView s e' ops) = vflowRun e.m e.lim v t.data ops := by
  dsimp only [hstep, hres, hflow]
  rw [hv]
  exact ⟨rfl, rfl, rfl⟩

theorem viaView_invalid (e : HEnv) {t : TD α} (h : t.Inv) (s e' : Nat × Nat) (ops : List (MOp α))
    (hw : s.1 < WORD ∧ s.2 < WORD ∧ e'.1 < WORD ∧ e'.2 < WORD)
    (hbad : ¬ ((s.1 ≤ e'.1 ∧ s.2 ≤ e'.2) ∧ (e'.1 ≤ t.numCols ∧ e'.2 ≤ t.numRows))) :
    hstep e t (.viaView s e' ops) = t ∧ hres e t (.viaView s e' ops) = .error .panic ∧ hflow e t (.viaView s e' ops) = {} := by
  dsimp only [hstep, hres, hflow]
  rw [C03_from_toodee_invalid e.m t h s e' hw hbad]
  exact ⟨rfl, rfl, rfl⟩

/-- the window of an array depends on the array only through its dimensions and the length of its buffer -/
theorem VW.fromTooDee_data (m : Mode) (s e' : Nat × Nat) (t : TD α) (d : List α) (hd : d.length = t.data.length) :
    VW.fromTooDee m s e' ({ t with data := d } : TD α) = VW.fromTooDee m s e' t := by
  simp only [VW.fromTooDee, TD.win, hd]

end Toodee
