import Toodee.Proofs.HistoryView
import Toodee.Properties.C06
import Toodee.Properties.C11
import Toodee.Properties.C12
/-
  Lemmas for C01 / C05 (histories): one step of a history, and a whole history.  `HOp.Step` collects what every history theorem
  says of one call — the shape invariant afterwards, an outcome that is never `ub`, agreement with the rows-of-cells model,
  conservation of elements, no leak.  `HOp.Step.same` / `.drained` / `.ctor` / `.insert` build it for the families of calls, the
  `step_*` lemmas prove it operation by operation, each from its own results (constructors: the equations `TD.fromVec_eq` /
  `TD.new_eq` / `TD.init_eq_new` of Index; `insert_*`: C06, C11; `remove_*` / `pop_*` and their leaked drains: C07, C12, and for
  the column drain `DrainCol.run_drop_of_removeCol`, `TD.Inv.eraseCol`; in-place calls: `spec_agrees` over C13_run_owned, C04, C15,
  C16, C17; blocks on a view: `block_ok` over C03, C04), and `hstep_ok` is their dispatch.  `hrun_ok` folds it along a history (`HOp.Run`).
-/
namespace Toodee
variable {α : Type}

/-- what the history theorems say of one call `op` on the array `t`, in terms of the array `t'` afterwards, the outcome `r` the
    caller sees and the flow `F` of elements.  Two fields have side conditions: `grid`, because the plain model has no capacities
    (`fits`) and prescribes nothing (`none`) for iterator scripts that panic or lie; `leak`, because a dishonest call may leak -/
structure HOp.Step (e : HEnv) (t : TD α) (op : HOp α) (t' : TD α) (r : Res Unit) (F : Flow α) : Prop where
  inv : t'.Inv
  res : r ≠ .error .ub ∧ r ≠ .error .fuel
  grid : op.fits e t → ∀ g', gstep t.grid op = some g' → t'.grid = g'
  flow : F.Conserves t.data t'.data
  leak : op.honest → F.leaked = []

/-- `HOp.Step` of the call as the Impl-model computes it -/
abbrev HOp.StepOk (e : HEnv) (t : TD α) (op : HOp α) : Prop := HOp.Step e t op (hstep e t op) (hres e t op) (hflow e t op)

theorem Res.ok_ne_ub_fuel {β : Type} (x : β) : (Except.ok x : Res β) ≠ .error .ub ∧ (Except.ok x : Res β) ≠ .error .fuel :=
  ⟨nofun, nofun⟩

theorem Res.panic_ne_ub_fuel {β : Type} :
    (Except.error .panic : Res β) ≠ .error .ub ∧ (Except.error .panic : Res β) ≠ .error .fuel := ⟨nofun, nofun⟩

theorem Res.ite_ne_ub_fuel (c : Prop) [Decidable c] :
    (if c then pure () else throw .panic : Res Unit) ≠ .error .ub ∧
      (if c then pure () else throw .panic : Res Unit) ≠ .error .fuel := by
  split
  · exact Res.ok_ne_ub_fuel _
  · exact Res.panic_ne_ub_fuel

theorem Res.eq_panic {r : Res Unit} (hok : r ≠ .ok ()) (hub : r ≠ .error .ub ∧ r ≠ .error .fuel) : r = .error .panic :=
  match r, hok, hub with
  | .error .panic, _, _ => rfl
  | .ok (), hok, _ => absurd rfl hok
  | .error .ub, _, hub => absurd rfl hub.1
  | .error .fuel, _, hub => absurd rfl hub.2

theorem Option.eq_of_eq_some {β : Type} {o : Option β} {x : β} (h : o = some x) : ∀ y, o = some y → x = y :=
  fun _ hy => Option.some.inj (h.symm.trans hy)

theorem hstep_inplace (e : HEnv) (t : TD α) (op : MOp α) :
    hstep e t (.inplace op) = t.withData ((Recv.root t).run e.m e.lim t.data op) := rfl

theorem hres_inplace (e : HEnv) (t : TD α) (op : MOp α) :
    hres e t (.inplace op) = ((Recv.root t).run e.m e.lim t.data op).map fun _ => () := rfl

/-- a call that leaves the array as it is and gives back (drops) what it was handed -/
theorem HOp.Step.same {e : HEnv} {t : TD α} {op : HOp α} {r : Res Unit} (h : t.Inv) (hr : r ≠ .error .ub ∧ r ≠ .error .fuel)
    (hg : op.fits e t → gstep t.grid op = some t.grid) (s : List α) : HOp.Step e t op t r { supplied := s, dropped := s } :=
  ⟨h, hr, fun hf => Option.eq_of_eq_some (hg hf), Flow.conserves_returned t.data s, fun _ => rfl⟩

/-- a call that succeeds and only takes cells out of the array: handed to the caller (`H`), dropped (`D`) or leaked (`L`) -/
theorem HOp.Step.drained {e : HEnv} {t t' : TD α} {op : HOp α} (hinv : t'.Inv) (hg : gstep t.grid op = some t'.grid)
    (H D L : List α) (hp : (t'.data ++ H ++ D ++ L).Perm t.data) (hl : op.honest → L = []) :
    HOp.Step e t op t' (.ok ()) ⟨[], H, D, L⟩ :=
  ⟨hinv, Res.ok_ne_ub_fuel _, fun _ => Option.eq_of_eq_some hg, .intro (by rw [List.append_nil]; exact hp), hl⟩

theorem specShapeOk_iff (c r : Nat) : specShapeOk c r = true ↔ shapeOk c r := by
  unfold specShapeOk shapeOk
  exact decide_eq_true_iff

/-- `from_vec` / `new` / `init`: `X` is the constructor's result, the array `⟨v, r, c⟩` when `P`; `F` is the flow when it is
    accepted, `y` what a rejected call was handed and drops.  The conclusion is spelt as `hstep` / `hres` / `hflow` spell these
    three calls, so that it unifies with them (`generalizing := false`: the matches must not abstract `hX`; `F` is a function
    because `hflow` binds the constructed array in its match) -/
theorem HOp.Step.ctor {e : HEnv} {t : TD α} {op : HOp α} (h : t.Inv) (c r : Nat) (v : List α) (P : Prop) [Decidable P]
    (X : Res (TD α)) (hX : X = if P then .ok ⟨v, r, c⟩ else .error .panic) (hP : P → shapeOk c r ∧ v.length = c * r)
    (hg : op.fits e t → gstep t.grid op = if P then some (toRows c v) else some t.grid)
    (F : TD α → Flow α) (hF : (F ⟨v, r, c⟩).Conserves t.data v ∧ (F ⟨v, r, c⟩).leaked = []) (y : List α) :
    HOp.Step e t op (match (generalizing := false) X with | .ok t' => t' | .error _ => t) (X.map fun _ => ())
      (match (generalizing := false) X with | .ok t' => F t' | .error _ => { supplied := y, dropped := y }) := by
  subst hX
  by_cases hp : P
  · rw [if_pos hp]
    exact ⟨.of_shape (hP hp).1 (hP hp).2, Res.ok_ne_ub_fuel _, fun hf => Option.eq_of_eq_some (by rw [hg hf, if_pos hp]; rfl), hF.1,
      fun _ => hF.2⟩
  · rw [if_neg hp]
    exact .same h Res.panic_ne_ub_fuel (fun hf => by rw [hg hf, if_neg hp]) y

theorem HOp.fitsLim_of_fits {e : HEnv} {t : TD α} {op : MOp α} (hf : (HOp.inplace op).fits e t) :
    op.fitsLim t.numCols t.numRows e.lim := by
  cases op with
  | sortRow side row => exact hf
  | sortCol side col => exact hf
  | _ => trivial

theorem HOp.fitsLim_of_view_fits {e : HEnv} {t : TD α} {s w : Nat × Nat} {ops : List (MOp α)} {op : MOp α}
    (hf : (HOp.viaView s w ops).fits e t) (hm : op ∈ ops) : op.fitsLim (viewSize s w).1 (viewSize s w).2 e.lim := by
  have := hf op hm
  cases op with
  | sortRow side row => exact this
  | sortCol side col => exact this
  | _ => trivial

/-- `insert_row` / `insert_col` with any script: `o` is what the call returns, `hc` what C11 says of it; the plain model (`hg`)
    and the absence of leaks (`hl`) concern honest scripts only -/
theorem HOp.Step.insert {e : HEnv} {t : TD α} {op : HOp α} (it : IterScript α) (o : InsOut α)
    (hc : o.res ≠ .error .ub ∧ o.res ≠ .error .fuel ∧ o.t.Inv ∧
      (o.t.data ++ o.leaked ++ itemsOf o.rest).Perm (t.data ++ itemsOf it.events))
    (hg : op.fits e t → ∀ g', gstep t.grid op = some g' → o.t.grid = g') (hl : op.honest → o.leaked = []) :
    HOp.Step e t op o.t o.res { supplied := it.events.filterMap id, handed := o.rest.filterMap id, leaked := o.leaked } := by
  refine ⟨hc.2.2.1, ⟨hc.1, hc.2.1⟩, hg, ?_, hl⟩
  refine .intro ?_
  rw [List.append_nil]
  exact (perm_append_right_comm _ _ _).trans hc.2.2.2

section steps
variable (e : HEnv) {t : TD α} (h : t.Inv)
include h

theorem step_fromVec (c r : Nat) (v : List α) :
    HOp.StepOk e t (.fromVec c r v) := by
  refine HOp.Step.ctor h c r v _ _ (TD.fromVec_eq c r v) (fun hp => ⟨hp.1, hp.2.symm⟩) (fun _ => ?_)
    (fun _ => { supplied := v, dropped := t.data }) ⟨Flow.conserves_swapped t.data v, rfl⟩ v
  show (if specShapeOk c r = true ∧ c * r = v.length then _ else _) = _
  simp only [specShapeOk_iff]

theorem step_newArr (c r : Nat) (d : α) :
    HOp.StepOk e t (.newArr c r d) := by
  refine HOp.Step.ctor h c r _ _ _ (TD.new_eq e.cap c r d) (fun hp => ⟨hp.1, List.length_replicate⟩) (fun hf => ?_)
    (fun t' => { supplied := t'.data, dropped := t.data }) ⟨Flow.conserves_swapped _ _, rfl⟩ []
  have hf' : c * r ≤ e.cap := hf
  show (if specShapeOk c r = true then _ else _) = _
  simp only [specShapeOk_iff, hf', and_true]

theorem step_initArr (c r : Nat) (x : α) :
    HOp.StepOk e t (.initArr c r x) := by
  refine HOp.Step.ctor h c r _ _ _ ((TD.init_eq_new e.cap c r x).trans (TD.new_eq e.cap c r x))
    (fun hp => ⟨hp.1, List.length_replicate⟩) (fun hf => ?_)
    (fun t' =>
      ⟨t'.data ++ (if t'.data.length = 0 then [x] else []), [], t.data ++ (if t'.data.length = 0 then [x] else []), []⟩)
    ⟨(Flow.conserves_swapped _ _).add_side _, rfl⟩ [x]
  have hf' : c * r ≤ e.cap := hf
  show (if specShapeOk c r = true then _ else _) = _
  simp only [specShapeOk_iff, hf', and_true]

/-- `remove_row(i)` / `pop_row`, any consumption `w`, then drop: `op` is the call, the plain model erases row `i` -/
theorem step_rowDrain {op : HOp α} {i : Nat} (hi : i < t.numRows) (w : List Bool)
    (hg : gstep t.grid op = some (t.grid.eraseIdx i)) :
    ∃ d, t.removeRow e.m i = .ok d ∧
      HOp.Step e t op (d.run w).2.drop.1 (.ok ()) { handed := (d.run w).1, dropped := (d.run w).2.drop.2 } := by
  obtain ⟨d, hd, _, _, hinv, hgr, hp⟩ := C07_remove_row_run e.m t h i hi w
  refine ⟨d, hd, .drained hinv (hg.trans (congrArg some hgr.symm)) _ _ [] ?_ fun _ => rfl⟩
  rw [List.append_nil, List.append_assoc, hinv.data_eq_flatten_grid, hgr, h.data_eq_flatten_grid]
  exact (hp.append_left _).trans (perm_eraseIdx_flatten _ i _ (h.grid_getElem? hi))

theorem step_removeRow (i : Nat) (w : List Bool) :
    HOp.StepOk e t (.removeRow i w) := by
  dsimp only [HOp.StepOk, hstep, hres, hflow]
  by_cases hi : i < t.numRows
  · obtain ⟨d, hd, hs⟩ := step_rowDrain e h (op := .removeRow i w) hi w rfl
    rw [hd]
    exact hs
  · rw [C07_remove_row_reject e.m t i hi]
    refine .same h Res.panic_ne_ub_fuel (fun _ => ?_) []
    show some (t.grid.eraseIdx i) = _
    rw [List.eraseIdx_of_length_le (by rw [h.grid_length]; exact Nat.le_of_not_lt hi)]

theorem step_popRow (w : List Bool) :
    HOp.StepOk e t (.popRow w) := by
  dsimp only [HOp.StepOk, hstep, hres, hflow]
  by_cases h0 : t.numRows = 0
  · rw [(C07_pop_row e.m t h).1 h0]
    refine .same h (Res.ok_ne_ub_fuel _) (fun _ => ?_) []
    show some t.grid.dropLast = _
    rw [(h.grid_eq_nil).2 h0]
    rfl
  · obtain ⟨d, hd, hs⟩ := step_rowDrain e h (i := t.numRows - 1) (op := .popRow w) (Nat.sub_one_lt h0) w (by
      rw [List.eraseIdx_eq_dropLast (by rw [h.grid_length, Nat.sub_add_cancel (Nat.pos_of_ne_zero h0)])]
      rfl)
    rw [(C07_pop_row e.m t h).2 h0, hd]
    exact hs

theorem step_removeRowLeak (i : Nat) (w : List Bool) :
    HOp.StepOk e t (.removeRowLeak i w) := by
  dsimp only [HOp.StepOk, hstep, hres, hflow]
  by_cases hi : i < t.numRows
  · obtain ⟨d, hd, hinv, _, _, hg, hp⟩ := C12_leak_drain_row_run e.m t h i hi w
    rw [hd]
    exact .drained hinv (by dsimp only [gstep]; rw [h.grid_length, if_pos hi, hg]) _ [] _ (by simpa using hp) nofun
  · rw [C07_remove_row_reject e.m t i hi]
    exact .same h Res.panic_ne_ub_fuel (fun _ => by dsimp only [gstep]; rw [h.grid_length, if_neg hi]) []

/-- `remove_col(i)` / `pop_col`, any consumption `w`, then drop -/
theorem step_colDrain {op : HOp α} {i : Nat} (hi : i < t.numCols) (w : List Bool)
    (hg : gstep t.grid op = if t.numCols = 1 then some [] else some (t.grid.map fun ρ => ρ.eraseIdx i)) :
    ∃ d ys d' t' dropped, t.removeCol e.m i = .ok d ∧ d.run e.m w = .ok (ys, d') ∧ d'.drop e.m = .ok (t', dropped) ∧
      HOp.Step e t op t' (.ok ()) { handed := ys, dropped := dropped } := by
  have hd := h.removeCol_ok e.m hi
  obtain ⟨d', hrun, hdrop⟩ := DrainCol.run_drop_of_removeCol h e.m hi hd w
  obtain ⟨_, hinv, hgr⟩ := h.eraseCol hi
  refine ⟨_, _, d', _, _, hd, hrun, hdrop, .drained hinv (by rw [hg, hgr, apply_ite some]) _ _ [] ?_ fun _ => rfl⟩
  rw [List.append_nil, List.append_assoc, TD.ofRows_data]
  exact ((Seq.ends_perm _ w).append_left _).trans (h.eraseCol_perm hi)

theorem step_removeCol (i : Nat) (w : List Bool) :
    HOp.StepOk e t (.removeCol i w) := by
  dsimp only [HOp.StepOk, hstep, hres, hflow]
  by_cases hi : i < t.numCols
  · obtain ⟨d, ys, d', t', dropped, hd, hrun, hdrop, hs⟩ := step_colDrain e h (op := .removeCol i w) hi w
      (by dsimp only [gstep]; rw [h.gcols_grid, if_pos hi])
    simp only [hd, ok_bind, hrun, hdrop, pure_eq]
    exact hs
  · simp only [C07_remove_col_reject e.m t i hi, err_bind]
    exact .same h Res.panic_ne_ub_fuel (fun _ => by dsimp only [gstep]; rw [h.gcols_grid, if_neg hi]) []

theorem step_popCol (w : List Bool) :
    HOp.StepOk e t (.popCol w) := by
  dsimp only [HOp.StepOk, hstep, hres, hflow]
  by_cases h0 : t.numCols = 0
  · simp only [(C07_pop_col e.m t h).1 h0, ok_bind, pure_eq]
    exact .same h (Res.ok_ne_ub_fuel _) (fun _ => by dsimp only [gstep]; rw [h.gcols_grid, if_pos h0]) []
  · obtain ⟨d, ys, d', t', dropped, hd, hrun, hdrop, hs⟩ := step_colDrain e h (op := .popCol w) (i := t.numCols - 1)
      (Nat.sub_one_lt h0) w (by dsimp only [gstep]; rw [h.gcols_grid, if_neg h0])
    simp only [(C07_pop_col e.m t h).2 h0, hd, Except.map, ok_bind, hrun, hdrop, pure_eq]
    exact hs

theorem step_removeColLeak (i : Nat) (w : List Bool) :
    HOp.StepOk e t (.removeColLeak i w) := by
  dsimp only [HOp.StepOk, hstep, hres, hflow]
  by_cases hi : i < t.numCols
  · obtain ⟨d, ys, d', hd, hrun, hl, _, hp⟩ := C12_leak_drain_col_run e.m t h i hi w
    simp only [hd, ok_bind, hrun, pure_eq]
    rw [hl]
    exact .drained TD.Inv.nil (by dsimp only [gstep]; rw [h.gcols_grid, if_pos hi, TD.grid_empty]) _ [] _
      (by simpa using hp) nofun
  · simp only [C07_remove_col_reject e.m t i hi, err_bind]
    exact .same h Res.panic_ne_ub_fuel (fun _ => by dsimp only [gstep]; rw [h.gcols_grid, if_neg hi]) []

/-- `insert_row` with an honest script and enough capacity, against the plain model: the right-hand side is `gstep`'s text for an
    honest script (hence `some … = if … then some …`), with the array's dimensions for the grid's; its three leaves are
    C06_insert_row_ok (into the empty array), C06_insert_row_grid and C06_insert_row_reject -/
theorem insertRow_refines (m : Mode) (cap : Nat) (i : Nat) (xs spare : List α) (hsp : xs.length ≤ spare.length)
    (hcap : t.data.length + xs.length ≤ cap) (hcapw : cap < WORD) :
    some (t.insertRow m cap i (honest xs) spare).t.grid =
      if t.grid = [] then some (if i = 0 ∧ xs ≠ [] then [xs] else [])
      else if i ≤ t.numRows ∧ xs.length = t.numCols then some (t.grid.insertIdx i xs) else some t.grid := by
  have hword := Nat.lt_of_le_of_lt hcap hcapw
  by_cases hg0 : t.grid = []
  · rw [if_pos hg0]
    refine congrArg some ?_
    have hR0 : t.numRows = 0 := (h.grid_eq_nil).1 hg0
    have hd0 : t.data = [] := List.eq_nil_of_length_eq_zero (by rw [h.len, hR0, Nat.mul_zero])
    by_cases hi0 : i = 0
    · subst hi0
      obtain ⟨_, _, _, _, hdata, hnc, _⟩ := C06_insert_row_ok m cap t h 0 xs spare (Nat.zero_le _) (Or.inl hR0) hcap hsp hword
      show toRows _ _ = _
      rw [hnc, hdata, hd0]
      simp only [List.take_nil, List.drop_nil, List.nil_append, List.append_nil]
      by_cases hx : xs = []
      · rw [if_neg (fun hc => hc.2 hx), hx]
        exact toRows_nil _
      · rw [if_pos ⟨trivial, hx⟩]
        exact toRows_single xs hx
    · rw [if_neg (fun hc => hi0 hc.1), (C06_insert_row_reject m cap t i (honest xs) spare
        (fun hc => hi0 (Nat.le_zero.1 (hR0 ▸ hc.1)))).2.1, hg0]
  · rw [if_neg hg0]
    have hR0 : t.numRows ≠ 0 := fun h0 => hg0 ((h.grid_eq_nil).2 h0)
    have hC0 : 0 < t.numCols := TD.Inv.cols_pos h (r := 0) (Nat.pos_of_ne_zero hR0)
    by_cases hacc : i ≤ t.numRows ∧ xs.length = t.numCols
    · rw [if_pos hacc, C06_insert_row_grid m cap t h i xs spare hacc.1 hacc.2 (hacc.2 ▸ hC0) hcap hsp hword]
    · rw [if_neg hacc,
        (C06_insert_row_reject m cap t i (honest xs) spare (fun hc => hc.2.elim hR0 fun h2 => hacc ⟨hc.1, h2⟩)).2.1]

/-- the same for `insert_col` (C06_insert_col_ok, C06_insert_col_grid, C06_insert_col_reject) -/
theorem insertCol_refines (m : Mode) (cap : Nat) (i : Nat) (xs spare : List α) (hsp : xs.length ≤ spare.length)
    (hcap : t.data.length + xs.length ≤ cap) (hcapw : cap < WORD) :
    some (t.insertCol m cap i (honest xs) spare).t.grid =
      if t.grid = [] then some (if i = 0 then xs.map (fun x => [x]) else [])
      else if i ≤ t.numCols ∧ xs.length = t.numRows then some (List.zipWith (insAt i) t.grid xs) else some t.grid := by
  have hword := Nat.lt_of_le_of_lt hcap hcapw
  by_cases hg0 : t.grid = []
  · rw [if_pos hg0]
    refine congrArg some ?_
    have hR0 : t.numRows = 0 := (h.grid_eq_nil).1 hg0
    have hC0 : t.numCols = 0 := h.zero.2 hR0
    by_cases hi0 : i = 0
    · subst hi0
      obtain ⟨_, _, _, _, hdata, _, hnc⟩ := C06_insert_col_ok m cap t h 0 xs spare (Nat.zero_le _) (Or.inl hC0) hcap hsp hword
      show toRows _ _ = _
      rw [hnc, hdata, if_pos hC0, if_pos rfl]
      by_cases hx : xs.length = 0
      · rw [if_pos hx, List.eq_nil_of_length_eq_zero hx]
        exact toRows_nil _
      · rw [if_neg hx, hC0]
        exact toRows_one xs
    · rw [if_neg hi0, (C06_insert_col_reject m cap t i (honest xs) spare
        (fun hc => hi0 (Nat.le_zero.1 (hC0 ▸ hc.1)))).2.1, hg0]
  · rw [if_neg hg0]
    have hR0 : t.numRows ≠ 0 := fun h0 => hg0 ((h.grid_eq_nil).2 h0)
    have hC0 : 0 < t.numCols := TD.Inv.cols_pos h (r := 0) (Nat.pos_of_ne_zero hR0)
    by_cases hacc : i ≤ t.numCols ∧ xs.length = t.numRows
    · rw [if_pos hacc, C06_insert_col_grid m cap t h i xs spare hacc.1 hacc.2 hC0 hcap hsp hword]
    · rw [if_neg hacc, (C06_insert_col_reject m cap t i (honest xs) spare
        (fun hc => hc.2.elim (Nat.ne_of_gt hC0) fun h2 => hacc ⟨hc.1, h2⟩)).2.1]

/-- an honest script leaks nothing, whether the call is accepted, rejected for its arguments or for the capacity -/
theorem insertRow_no_leak (m : Mode) (cap : Nat) (hcapw : cap < WORD) (i : Nat) (xs spare : List α)
    (hsp : xs.length ≤ spare.length) : (t.insertRow m cap i (honest xs) spare).leaked = [] := by
  by_cases hcap : t.data.length + xs.length ≤ cap
  · by_cases hacc : i ≤ t.numRows ∧ (t.numRows = 0 ∨ (honest xs).claimed = t.numCols)
    · exact (C06_insert_row_ok m cap t h i xs spare hacc.1 hacc.2 hcap hsp (Nat.lt_of_le_of_lt hcap hcapw)).2.2.1
    · exact (C06_insert_row_reject m cap t i (honest xs) spare hacc).2.2.2
  · rw [TD.insertRow_over_cap m cap t i (honest xs) spare (Nat.lt_of_not_le hcap)]

theorem insertCol_no_leak (m : Mode) (cap : Nat) (hcapw : cap < WORD) (i : Nat) (xs spare : List α)
    (hsp : xs.length ≤ spare.length) : (t.insertCol m cap i (honest xs) spare).leaked = [] := by
  by_cases hcap : t.data.length + xs.length ≤ cap
  · by_cases hacc : i ≤ t.numCols ∧ (t.numCols = 0 ∨ (honest xs).claimed = t.numRows)
    · exact (C06_insert_col_ok m cap t h i xs spare hacc.1 hacc.2 hcap hsp (Nat.lt_of_le_of_lt hcap hcapw)).2.2.1
    · exact (C06_insert_col_reject m cap t i (honest xs) spare hacc).2.2.2
  · rw [TD.insertCol_over_cap m cap t i (honest xs) spare (Nat.lt_of_not_le hcap)]

theorem step_insertRow (he : e.ok) (i : Nat) (it : IterScript α) (spare : List α) (hop : it.claimed ≤ spare.length) :
    HOp.StepOk e t (.insertRow i it spare) := by
  refine HOp.Step.insert it _ (C11_insert_row e.m e.cap t h i it spare (Or.inl hop) he) (fun hfit g' hg => ?_) (fun hon => ?_)
  · have hfit' : t.data.length + it.claimed ≤ e.cap := hfit
    dsimp only [gstep] at hg
    generalize hxs : it.events.filterMap id = xs at hg
    obtain ⟨rfl, hg'⟩ := IterScript.honest_of_guard hxs hg
    rw [h.grid_length, h.gcols_grid] at hg'
    exact Option.some.inj ((insertRow_refines h e.m e.cap i xs spare hop hfit' he).trans hg')
  · obtain ⟨xs, rfl⟩ := it.exists_honest hon
    exact insertRow_no_leak h e.m e.cap he i xs spare hop

theorem step_insertCol (he : e.ok) (i : Nat) (it : IterScript α) (spare : List α) (hop : it.claimed ≤ spare.length) :
    HOp.StepOk e t (.insertCol i it spare) := by
  refine HOp.Step.insert it _ (C11_insert_col e.m e.cap t h i it spare (Or.inl hop) he) (fun hfit g' hg => ?_) (fun hon => ?_)
  · have hfit' : t.data.length + it.claimed ≤ e.cap := hfit
    dsimp only [gstep] at hg
    generalize hxs : it.events.filterMap id = xs at hg
    obtain ⟨rfl, hg'⟩ := IterScript.honest_of_guard hxs hg
    rw [h.grid_length, h.gcols_grid] at hg'
    exact Option.some.inj ((insertCol_refines h e.m e.cap i xs spare hop hfit' he).trans hg')
  · obtain ⟨xs, rfl⟩ := it.exists_honest hon
    exact insertCol_no_leak h e.m e.cap he i xs spare hop

theorem step_inplace (op : MOp α) (hop : op.Sane ∧ op.srcOk) :
    HOp.StepOk e t (.inplace op) := by
  obtain ⟨_, _, f3⟩ := C04_spec_frame e.lim t.asView t.data h.asView op hop.1
  have ha := inplace_agrees h e.lim op hop.1 hop.2
  dsimp only [HOp.StepOk, hstep, hres, hflow]
  rw [C13_run_owned e.m e.lim t h op hop.1 hop.2]
  cases hsp : op.spec t.asView e.lim t.data with
  | error er =>
    rw [hsp] at ha
    obtain ⟨rfl, hk⟩ := ha
    exact ⟨h, Res.panic_ne_ub_fuel,
      fun hf => Option.eq_of_eq_some (hs_gok_false_gstepM t.grid op (hk (HOp.fitsLim_of_fits hf))), (errFlow_conserves t.data op).1,
      fun _ => (errFlow_conserves t.data op).2⟩
  | ok d =>
    rw [hsp] at ha
    obtain ⟨_, hg, hF⟩ := ha
    exact ⟨h.with_data d (f3 d hsp).1, Res.ok_ne_ub_fuel _, fun _ g' hg' => (h.grid_with_data d (f3 d hsp).1).trans (hg g' hg'),
      mflow_conserves h op hF, fun _ => mflow_leaked t op⟩

theorem step_viaView (s e' : Nat × Nat) (ops : List (MOp α)) (hop : (HOp.viaView s e' ops).wf) :
    HOp.StepOk e t (.viaView s e' ops) := by
  by_cases hok : (s.1 ≤ e'.1 ∧ s.2 ≤ e'.2) ∧ (e'.1 ≤ t.numCols ∧ e'.2 ≤ t.numRows)
  · obtain ⟨v, hv, hinv, hsz, hpos⟩ := C03_from_toodee_valid e.m t h s e' hok.1 hok.2
    obtain ⟨hs, hr, hf⟩ := viaView_valid e t hv ops
    have hb := block_ok hinv e.m e.lim ops hop.2
    unfold HOp.StepOk
    rw [hs, hr, hf]
    refine ⟨h.with_data _ hb.len, hb.res, fun hfit g' hg' => ?_, hb.flow, fun _ => hb.leak⟩
    have hp : Placed t v s e' := ⟨hok.2, hsz, hpos⟩
    dsimp only [gstep] at hg'
    rw [h.gcols_grid, h.grid_length, if_pos ⟨hok.1.1, hok.1.2, hok.2.1, hok.2.2⟩, hp.grid h, hp.cols, hp.rows] at hg'
    cases hgb : gblock (v.grid t.data) ops with
    | none => rw [hgb] at hg'; cases hg'
    | some sub' =>
      rw [hgb] at hg'
      have hfl : ∀ op ∈ ops, op.fitsLim v.numCols v.numRows e.lim :=
        fun op hm => hp.cols ▸ hp.rows ▸ HOp.fitsLim_of_view_fits hfit hm
      rw [← Option.some.inj hg', ← hb.grid hfl sub' hgb]
      exact hp.patched h _ (by rw [hb.len]; exact hinv) hb.len hb.frame
  · obtain ⟨hs, hr, hf⟩ := viaView_invalid e h s e' ops hop.1 hok
    unfold HOp.StepOk
    rw [hs, hr, hf]
    exact .same h Res.panic_ne_ub_fuel (fun _ => by
      dsimp only [gstep]; rw [h.gcols_grid, h.grid_length, if_neg (fun hc => hok ⟨⟨hc.1, hc.2.1⟩, hc.2.2⟩)]) []

omit h in
theorem step_clear : HOp.StepOk e t .clear :=
  .drained (t := t) (op := .clear) TD.Inv.nil (congrArg some TD.grid_empty.symm) [] _ [] (by simp) fun _ => rfl

omit h in
theorem step_takeInto (k : Nat) : HOp.StepOk e t (.takeInto k) :=
  .drained (t := t) (op := .takeInto k) TD.Inv.nil (congrArg some TD.grid_empty.symm) _ _ [] (by simp) fun _ => rfl

theorem step_swapDimensions : HOp.StepOk e t .swapDimensions := by
  refine ⟨⟨by show t.data.length = t.numRows * t.numCols; rw [h.len, Nat.mul_comm], h.zero.symm, h.word⟩, Res.ok_ne_ub_fuel _,
    fun _ => Option.eq_of_eq_some ?_, Flow.conserves_of_perm (List.Perm.refl _), fun _ => rfl⟩
  show some (toRows t.grid.length t.grid.flatten) = some (toRows t.numRows t.data)
  rw [h.grid_length, ← h.data_eq_flatten_grid]

theorem step_capacityCall (k : Option Nat) : HOp.StepOk e t (.capacityCall k) := by
  refine .same h ?_ (fun _ => rfl) []
  cases k with
  | none => exact Res.ok_ne_ub_fuel _
  | some k => exact Res.ite_ne_ub_fuel _

/-- for every well-formed call the step the Impl-model computes is a `HOp.Step` -/
theorem hstep_ok (he : e.ok) (op : HOp α) (hop : op.wf) : HOp.StepOk e t op := by
  cases op with
  | fromVec c r v => exact step_fromVec e h c r v
  | newArr c r d => exact step_newArr e h c r d
  | initArr c r x => exact step_initArr e h c r x
  | insertRow i it spare => exact step_insertRow e h he i it spare hop
  | insertCol i it spare => exact step_insertCol e h he i it spare hop
  | removeRow i w => exact step_removeRow e h i w
  | removeCol i w => exact step_removeCol e h i w
  | popRow w => exact step_popRow e h w
  | popCol w => exact step_popCol e h w
  | removeRowLeak i w => exact step_removeRowLeak e h i w
  | removeColLeak i w => exact step_removeColLeak e h i w
  | clear => exact step_clear e
  | swapDimensions => exact step_swapDimensions e h
  | capacityCall k => exact step_capacityCall e h k
  | takeInto k => exact step_takeInto e k
  | inplace op => exact step_inplace e h op hop
  | viaView s e' ops => exact step_viaView e h s e' ops hop

/-- the requests `HOp.fits` keeps out of the refinement because the plain model cannot express them (`HOp.overCap`: more cells than
    a `Vec` holds, a sorted line longer than the side table) are rejected with a panic before anything is touched -/
theorem hstep_over_cap (op : HOp α) (hw : op.wf) (ho : op.overCap e t) : hres e t op = .error .panic ∧ hstep e t op = t := by
  cases op with
  | newArr c r d =>
    dsimp only [hres, hstep]
    rw [TD.new_eq, if_neg fun hc => Nat.not_le.2 ho hc.2]
    exact ⟨rfl, rfl⟩
  | initArr c r d =>
    dsimp only [hres, hstep]
    rw [TD.init_eq_new, TD.new_eq, if_neg fun hc => Nat.not_le.2 ho hc.2]
    exact ⟨rfl, rfl⟩
  | insertRow i it spare =>
    dsimp only [hres, hstep]
    rw [TD.insertRow_over_cap e.m e.cap t i it spare ho]
    exact ⟨rfl, rfl⟩
  | insertCol i it spare =>
    dsimp only [hres, hstep]
    rw [TD.insertCol_over_cap e.m e.cap t i it spare ho]
    exact ⟨rfl, rfl⟩
  | capacityCall a =>
    cases a with
    | none => exact ho.elim
    | some k =>
      dsimp only [hres, hstep]
      rw [reserveOk_false_of_lt ho]
      exact ⟨rfl, rfl⟩
  | inplace mop =>
    rw [hres_inplace, hstep_inplace, C13_run_owned e.m e.lim t h mop hw.1 hw.2]
    cases mop with
    | sortRow side k =>
      rw [MOp.spec_sortRow_over_lim t.asView e.lim t.data side k ho]
      exact ⟨rfl, rfl⟩
    | sortCol side k =>
      rw [MOp.spec_sortCol_over_lim t.asView e.lim t.data side k ho]
      exact ⟨rfl, rfl⟩
    | _ => exact ho.elim
  | _ => exact ho.elim

end steps

theorem hrun_append (e : HEnv) (t : TD α) (ops ops' : List (HOp α)) : hrun e t (ops ++ ops') = hrun e (hrun e t ops) ops' :=
  List.foldl_append

/-- what the history theorems say of a whole history `ops` from the array `t`, in terms of the array `t'` and the flow `F` at its
    end -/
structure HOp.Run (e : HEnv) (t : TD α) (ops : List (HOp α)) (t' : TD α) (F : Flow α) : Prop where
  inv : t'.Inv
  grid : hfits e t ops → ∀ g', grun t.grid ops = some g' → t'.grid = g'
  flow : F.Conserves t.data t'.data
  leak : (∀ op ∈ ops, op.honest) → F.leaked = []

/-- for every history of well-formed calls the run the Impl-model computes is a `HOp.Run` -/
theorem hrun_ok (e : HEnv) {t : TD α} (h : t.Inv) (he : e.ok) (ops : List (HOp α)) (hops : ∀ op ∈ ops, op.wf) :
    HOp.Run e t ops (hrun e t ops) (hflowRun e t ops) := by
  induction ops generalizing t with
  | nil => exact ⟨h, fun _ _ hg => Option.some.inj hg, Flow.conserves_of_perm (List.Perm.refl _), fun _ => rfl⟩
  | cons op ops ih =>
    have hs := hstep_ok e h he op (hops op (List.mem_cons_self ..))
    have ih' := ih hs.inv (fun o ho => hops o (List.mem_cons_of_mem _ ho))
    refine ⟨ih'.inv, fun hf g' hg => ?_, hs.flow.trans ih'.flow, fun hon => ?_⟩
    · have hg2 : (gstep t.grid op).bind (fun g1 => grun g1 ops) = some g' := hg
      cases hs1 : gstep t.grid op with
      | none => rw [hs1] at hg2; cases hg2
      | some g1 =>
        rw [hs1] at hg2
        refine ih'.grid hf.2.2 g' ?_
        rw [hs.grid hf.2.1 g1 hs1]
        exact hg2
    · show (hflow e t op).leaked ++ (hflowRun e (hstep e t op) ops).leaked = []
      rw [hs.leak (hon op (List.mem_cons_self ..)), ih'.leak (fun o ho => hon o (List.mem_cons_of_mem _ ho))]
      rfl

end Toodee
