import Toodee.Proofs.CellsLemmas
/-
  The swap primitives, each as one equation for every argument (`call = if in range then .ok … else .error .panic`): `swap` and `swap_rows`
  of the `TooDee` overrides (`TD.Inv.swap_eq`, `TD.Inv.swapRows_eq`), `swap_rows` of `TooDeeViewMut` (`VW.Inv.swapRows_eq`), and the trait defaults
  `swap`, `swap_rows`, `swap_cols`, `row_pair_mut` (`Acc.Of.swap_eq`, `Acc.Of.swapRows_eq`, `Acc.Of.swapCols_eq`, `Acc.Of.rowPairMut_eq`).  In range the
  result is a cell permutation of the receiver (`gather buf (v.mapCells …)`), so every other cell of the root buffer is unchanged.
-/
namespace Toodee
variable {α : Type}

/-- `TooDee::swap` for every argument -/
theorem TD.Inv.swap_eq {t : TD α} (h : t.Inv) (m : Mode) (c1 r1 c2 r2 : Nat) :
    t.swap m c1 r1 c2 r2 =
      if c1 < t.numCols ∧ c2 < t.numCols ∧ r1 < t.numRows ∧ r2 < t.numRows then
        .ok (gather t.data (t.asView.mapCells (swapCellG (c1, r1) (c2, r2))))
      else .error .panic := by
  have hvi := h.asView
  simp only [TD.swap, guard_bind]
  by_cases hv : c1 < t.numCols ∧ c2 < t.numCols ∧ r1 < t.numRows ∧ r2 < t.numRows
  · obtain ⟨hc1, hc2, hr1, hr2⟩ := hv
    have hcell1 : r1 * t.numCols + c1 < t.data.length := h.len ▸ rowMajor_cell_lt hc1 hr1
    have hcell2 : r2 * t.numCols + c2 < t.data.length := h.len ▸ rowMajor_cell_lt hc2 hr2
    have hw1 : r1 * t.numCols + c1 < WORD := Nat.lt_trans hcell1 h.word
    have hw2 : r2 * t.numCols + c2 < WORD := Nat.lt_trans hcell2 h.word
    rw [if_pos ⟨hc1, hc2⟩, if_pos ⟨hr1, hr2⟩, if_pos ⟨hc1, hc2, hr1, hr2⟩,
      umul_ok m (Nat.lt_of_le_of_lt (Nat.le_add_right _ _) hw1), ok_bind, uadd_ok m hw1, ok_bind,
      Win.getIdx_ok hcell1, ok_bind, umul_ok m (Nat.lt_of_le_of_lt (Nat.le_add_right _ _) hw2), ok_bind,
      uadd_ok m hw2, ok_bind, Win.getIdx_ok hcell2, ok_bind, ← hvi.gather_swapCells hc1 hc2 hr1 hr2]
    simp only [pure_eq, TD.asView, VW.pos, Nat.add_assoc]
  · rw [if_neg hv]
    exact ite_eq_right_iff.2 fun hc => if_neg fun hr => hv ⟨hc.1, hc.2, hr.1, hr.2⟩

/-- What the three `swap_rows` have in common.  The first three hypotheses are the prologue the three Rust functions share verbatim
    (assert, early return for `r1 = r2`, ordering the pair), which is why each implementor discharges them by the same lines; the last
    is the exchange of the row windows of `a < b`. -/
theorem VW.Inv.swapRows_of_ordered {v : VW} {buf : List α} (h : v.Inv buf.length) (f : Nat → Nat → Res (List α))
    (hbad : ∀ r1 r2, ¬ (r1 < v.numRows ∧ r2 < v.numRows) → f r1 r2 = .error .panic)
    (hself : ∀ r, r < v.numRows → f r r = .ok buf)
    (hcomm : ∀ r1 r2, r2 < r1 → f r1 r2 = f r2 r1)
    (hord : ∀ a b, a < b → b < v.numRows → f a b = .ok (gather buf (swapWinMap (v.rowWin a) (v.rowWin b))))
    (r1 r2 : Nat) :
    f r1 r2 =
      if r1 < v.numRows ∧ r2 < v.numRows then .ok (gather buf (v.mapCells (swapRowsG r1 r2))) else .error .panic := by
  by_cases hv : r1 < v.numRows ∧ r2 < v.numRows
  · rw [if_pos hv]
    rcases Nat.lt_trichotomy r1 r2 with hlt | rfl | hgt
    · rw [hord r1 r2 hlt hv.2, h.gather_swapRows hv.1 hv.2]
    · rw [hself r1 hv.1, gather_swapRows_self]
    · rw [hcomm r1 r2 hgt, hord r2 r1 hgt hv.1, h.gather_swapRows hv.2 hv.1, swapRowsG_comm]
  · rw [if_neg hv, hbad r1 r2 hv]

/-- every piece of a slice cut as `x`, row, gap `y`, row, rest fits a `usize` when the slice does -/
theorem layout_word {x c y t len W : Nat} (h : len = x + (c + (y + (c + t)))) (hW : len < W) :
    x < W ∧ c + y < W ∧ y + c < W := by
  have h2 : c + y < W := Nat.lt_of_le_of_lt
    (h ▸ Nat.le_trans (Nat.add_le_add_left (Nat.le_add_right y _) c) (Nat.le_add_left _ x)) hW
  exact ⟨Nat.lt_of_le_of_lt (h ▸ Nat.le_add_right _ _) hW, h2, Nat.add_comm c y ▸ h2⟩

/-- `TooDee::swap_rows` for every argument -/
theorem TD.Inv.swapRows_eq {t : TD α} (h : t.Inv) (m : Mode) (r1 r2 : Nat) :
    t.swapRows m r1 r2 =
      if r1 < t.numRows ∧ r2 < t.numRows then .ok (gather t.data (t.asView.mapCells (swapRowsG r1 r2)))
      else .error .panic := by
  have hvi := h.asView
  refine hvi.swapRows_of_ordered (t.swapRows m) (fun r1 r2 hn => ?_) (fun r hr => ?_) (fun r1 r2 hgt => ?_)
    (fun a b hab hb => ?_) r1 r2
  · simp only [TD.swapRows, guard_bind]
    exact if_neg hn
  · simp only [TD.swapRows, guard_bind]
    rw [if_pos ⟨hr, hr⟩, if_pos trivial]
    rfl
  · simp only [TD.swapRows, hgt, Nat.lt_asymm hgt, Nat.ne_of_gt hgt, Nat.ne_of_lt hgt, and_comm, if_true, if_false]
  · -- rows `a < b`: the buffer is `a*C` cells, row `a`, `(b-a-1)*C` cells, row `b`, and a rest of `T` cells
    -- not a no-op: `hb` arrives typed `b < t.asView.numRows`, and the `simp only` below matches `t.numRows` syntactically
    have hb : b < t.numRows := hb
    obtain ⟨T, hT⟩ := Nat.exists_eq_add_of_le (h.len ▸ rowMajor_row_end_le hb : b * t.numCols + t.numCols ≤ t.data.length)
    have hd : a * t.numCols + t.numCols + (b - a - 1) * t.numCols = b * t.numCols := by
      rw [← Nat.succ_mul, ← Nat.add_mul, Nat.sub_sub, Nat.add_sub_cancel' hab]
    rw [← hd] at hT
    simp only [Nat.add_assoc] at hT
    obtain ⟨k1, _, k4⟩ := layout_word hT h.word
    have k6 : 0 + a * t.numCols + t.numCols + (b - a - 1) * t.numCols = 0 + b * t.numCols + 0 := by
      rw [Nat.zero_add, Nat.zero_add, hd]; rfl
    -- evaluates the slicing (`getFrom`, `splitAt`, `getRange`, checked arithmetic) on that layout; `k6`: end of the gap = start of row `b`
    simp only [TD.swapRows, TD.win, hT, Nat.lt_trans hab hb, hb, Nat.ne_of_lt hab, Nat.lt_asymm hab, and_self,
      if_false, umul_ok m k1, Win.getFrom_ok, Win.splitAt_ok, usub_ok m (Nat.le_of_lt hab),
      usub_ok m (Nat.sub_pos_of_lt hab), umul_ok m (Nat.lt_of_le_of_lt (Nat.le_add_right _ _) k4),
      uadd_ok m k4, Win.getRange_ok, Nat.le_add_right, Nat.add_le_add_iff_left, Nat.add_sub_cancel_left, ok_bind,
      pure_eq, not_true_eq_false, and_false, k6]
    rfl

/-- `TooDeeViewMut::swap_rows` for every argument -/
theorem VW.Inv.swapRows_eq {v : VW} {buf : List α} (h : v.Inv buf.length) (m : Mode) (r1 r2 : Nat) :
    v.swapRows m buf r1 r2 =
      if r1 < v.numRows ∧ r2 < v.numRows then .ok (gather buf (v.mapCells (swapRowsG r1 r2))) else .error .panic := by
  refine h.swapRows_of_ordered (v.swapRows m buf) (fun r1 r2 hn => ?_) (fun r hr => ?_) (fun r1 r2 hgt => ?_)
    (fun a b hab hb => ?_) r1 r2
  · simp only [VW.swapRows, guard_bind]
    exact if_neg hn
  · simp only [VW.swapRows, guard_bind]
    rw [if_pos ⟨hr, hr⟩, if_pos trivial]
    rfl
  · simp only [VW.swapRows, hgt, Nat.lt_asymm hgt, Nat.ne_of_gt hgt, Nat.ne_of_lt hgt, and_comm, if_true, if_false]
  · -- rows `a < b`: the slice is `a*S` cells, row `a`, a gap of `G = (b-a)*S - C` cells, row `b`, and a rest of `T` cells
    have hd : a * v.stride + (b - a) * v.stride = b * v.stride := by
      rw [← Nat.add_mul, Nat.add_sub_cancel' (Nat.le_of_lt hab)]
    obtain ⟨G, hG⟩ := Nat.exists_eq_add_of_le
      (Nat.le_trans h.stride (Nat.le_mul_of_pos_left _ (Nat.sub_pos_of_lt hab)) : v.numCols ≤ (b - a) * v.stride)
    obtain ⟨T, hT⟩ := Nat.exists_eq_add_of_le (h.row_end_le hb)
    rw [← hd, hG] at hT
    simp only [Nat.add_assoc] at hT
    obtain ⟨k1, k4, k6⟩ := layout_word hT (Nat.lt_of_le_of_lt (Nat.le_trans (Nat.le_add_left _ _) h.inside) h.word)
    have k8 : v.data.off + a * v.stride + v.numCols + G = v.data.off + b * v.stride + 0 := by
      rw [← hd, hG]; simp only [Nat.add_assoc, Nat.add_zero]
    -- evaluates the slicing on that layout; `k8`: end of the gap = start of row `b`
    simp only [VW.swapRows, hT, hG, Nat.lt_trans hab hb, hb, Nat.ne_of_lt hab, Nat.lt_asymm hab, and_self,
      if_false, umul_ok m k1, Win.getFrom_ok, Win.splitAt_ok, usub_ok m (Nat.le_of_lt hab),
      umul_ok m (hG ▸ k4), usub_ok m (Nat.le_add_right _ _), uadd_ok m k6, Win.getRange_ok,
      Nat.le_add_right, Nat.add_le_add_iff_left, Nat.add_sub_cancel_left, ok_bind, pure_eq, not_true_eq_false,
      and_false, k8]
    rfl

/-- default `swap_rows` for every argument -/
theorem Acc.Of.swapRows_eq {a : Acc} {v : VW} {buf : List α} (ha : a.Of v buf.length) (h : v.Inv buf.length) (m : Mode)
    (r1 r2 : Nat) :
    a.swapRows m buf r1 r2 =
      if r1 < v.numRows ∧ r2 < v.numRows then .ok (gather buf (v.mapCells (swapRowsG r1 r2))) else .error .panic := by
  have hR := ha.rows
  refine h.swapRows_of_ordered (a.swapRows m buf) (fun r1 r2 hn => ?_) (fun r hr => ?_) (fun r1 r2 hgt => ?_)
    (fun r1 r2 hlt hr2 => ?_) r1 r2
  · simp only [Acc.swapRows, guard_bind, hR]
    exact if_neg hn
  · simp only [Acc.swapRows, guard_bind, hR]
    rw [if_pos ⟨hr, hr⟩, if_pos trivial]
    rfl
  · simp only [Acc.swapRows, hgt, Nat.lt_asymm hgt, Nat.ne_of_gt hgt, Nat.ne_of_lt hgt, and_comm, if_true, if_false]
  · obtain ⟨it', it'', n1, n2⟩ := ha.nth_row_pair m hlt
    rw [if_pos (Nat.lt_trans hlt hr2)] at n1
    rw [if_pos hr2] at n2
    simp only [Acc.swapRows, hR, Nat.lt_trans hlt hr2, hr2, Nat.ne_of_lt hlt, Nat.lt_asymm hlt, n1, n2,
      usub_ok m (Nat.le_of_lt hlt), usub_ok m (Nat.sub_pos_of_lt hlt), unwrapWin, VW.rowWin, and_self,
      not_true_eq_false, if_false, ok_bind, pure_eq, ne_eq]

/-- the default `swap` normalises the order of the two cells by row -/
theorem Acc.swap_comm_of_gt (m : Mode) (a : Acc) (buf : List α) (c1 r1 c2 r2 : Nat) (hgt : r2 < r1) :
    a.swap m buf (c1, r1) (c2, r2) = a.swap m buf (c2, r2) (c1, r1) := by
  unfold Acc.swap
  simp only [gt_iff_lt, hgt, Nat.lt_asymm hgt, if_true, if_false]

/-- the default `swap` on cells ordered by row: for `r1 < r2`, `rows.nth r1` yields row `r1` and the same cursor's `nth (r2 - r1 - 1)`
    yields row `r2` (`Acc.Of.nth_row_pair`); for `r1 = r2` one `nth` yields the row both cells lie in -/
theorem Acc.Of.swap_eq_of_le {a : Acc} {v : VW} {buf : List α} (ha : a.Of v buf.length) (h : v.Inv buf.length) (m : Mode)
    (c1 r1 c2 r2 : Nat) (hle : r1 ≤ r2) :
    a.swap m buf (c1, r1) (c2, r2) =
      if c1 < v.numCols ∧ c2 < v.numCols ∧ r1 < v.numRows ∧ r2 < v.numRows then
        .ok (gather buf (v.mapCells (swapCellG (c1, r1) (c2, r2))))
      else .error .panic := by
  have hng : ¬ r2 < r1 := Nat.not_lt.2 hle
  simp only [Acc.swap, guard_bind, gt_iff_lt, hng, if_false, ha.cols]
  by_cases hc : c1 < v.numCols ∧ c2 < v.numCols
  · simp only [hc, and_self, true_and, if_true]
    rcases Nat.lt_or_eq_of_le hle with hlt | rfl
    · obtain ⟨it', it'', n1, n2⟩ := ha.nth_row_pair m hlt
      simp only [n1, ok_bind, Nat.ne_of_lt hlt, if_false, usub_ok m hle, usub_ok m (Nat.sub_pos_of_lt hlt), n2]
      by_cases hr1 : r1 < v.numRows
      · by_cases hr2 : r2 < v.numRows
        · simp only [hr1, hr2, and_self, if_true, unwrapWin, pure_eq, ok_bind, VW.rowWin_getIdx _ hc.1,
            VW.rowWin_getIdx _ hc.2, h.gather_swapCells hc.1 hc.2 hr1 hr2]
        · simp only [hr1, hr2, and_false, if_true, if_false, unwrapWin, pure_eq, throw_eq, ok_bind, err_bind]
      · simp only [hr1, false_and, if_false, unwrapWin, throw_eq, err_bind]
    · obtain ⟨it', n1, _⟩ := ha.nth_row m r1
      simp only [n1, ok_bind, if_true]
      by_cases hr1 : r1 < v.numRows
      · simp only [hr1, and_self, if_true, unwrapWin, pure_eq, ok_bind, VW.rowWin_getIdx _ hc.1,
          VW.rowWin_getIdx _ hc.2, h.gather_swapCells hc.1 hc.2 hr1 hr1]
      · simp only [hr1, and_self, if_false, unwrapWin, throw_eq, err_bind]
  · rw [if_neg hc, if_neg fun hv => hc ⟨hv.1, hv.2.1⟩]

/-- default `swap` for every argument -/
theorem Acc.Of.swap_eq {a : Acc} {v : VW} {buf : List α} (ha : a.Of v buf.length) (h : v.Inv buf.length) (m : Mode)
    (c1 r1 c2 r2 : Nat) :
    a.swap m buf (c1, r1) (c2, r2) =
      if c1 < v.numCols ∧ c2 < v.numCols ∧ r1 < v.numRows ∧ r2 < v.numRows then
        .ok (gather buf (v.mapCells (swapCellG (c1, r1) (c2, r2))))
      else .error .panic := by
  by_cases hle : r1 ≤ r2
  · exact ha.swap_eq_of_le h m c1 r1 c2 r2 hle
  · rw [Acc.swap_comm_of_gt m a buf c1 r1 c2 r2 (Nat.not_le.1 hle), swapCellG_comm,
      ha.swap_eq_of_le h m c2 r2 c1 r1 (Nat.le_of_not_le hle)]
    exact ite_congr (propext ⟨fun ⟨h1, h2, h3, h4⟩ => ⟨h2, h1, h4, h3⟩, fun ⟨h1, h2, h3, h4⟩ => ⟨h2, h1, h4, h3⟩⟩)
      (fun _ => rfl) (fun _ => rfl)

/-- default `swap_cols` for every argument -/
theorem Acc.Of.swapCols_eq {a : Acc} {v : VW} {buf : List α} (ha : a.Of v buf.length) (h : v.Inv buf.length) (c1 c2 : Nat) :
    a.swapCols buf c1 c2 =
      if c1 < v.numCols ∧ c2 < v.numCols then .ok (gather buf (v.mapCells (swapColsG c1 c2))) else .error .panic := by
  simp only [Acc.swapCols, guard_bind, ha.cols]
  refine Res.eq_ite_iff.2 ⟨?_, fun hn => ite_eq_right_iff.2 fun hc1 => if_neg fun hc2 => hn ⟨hc1, hc2⟩⟩
  rintro ⟨hc1, hc2⟩
  rw [if_pos hc1, if_pos hc2, ha.collect_rows, ok_bind, List.foldlM_map]
  refine h.foldlM_rows_perm _ (swapIdx c1 c2) (fun _ hc => swapIdx_lt hc1 hc2 hc) (fun b r hb hr => ?_) buf rfl
  -- row `r`: `ptr::swap` of the cells `(c1, r)` and `(c2, r)`
  simp only [VW.rowWin_getIdx r hc1, VW.rowWin_getIdx r hc2, ok_bind, pure_eq]
  exact congrArg Except.ok (gather_congr b _ _ fun p _ => VW.Inv.swapPosMap_eq_mapCells_onRow (hb ▸ h) hc1 hc2 hr p)

/-- `row_pair_mut` for every argument -/
theorem Acc.Of.rowPairMut_eq {a : Acc} {v : VW} {n : Nat} (ha : a.Of v n) (m : Mode) (r1 r2 : Nat) :
    a.rowPairMut m r1 r2 =
      if r1 < v.numRows ∧ r2 < v.numRows ∧ r1 ≠ r2 then .ok (v.rowWin r1, v.rowWin r2) else .error .panic := by
  simp only [Acc.rowPairMut, guard_bind, ha.rows]
  by_cases hv : r1 < v.numRows ∧ r2 < v.numRows ∧ r1 ≠ r2
  · rw [if_pos hv]
    obtain ⟨hr1, hr2, hne⟩ := hv
    rw [if_pos hr1, if_pos hr2, if_neg hne]
    rcases Nat.lt_or_gt_of_ne hne with hlt | hgt
    · obtain ⟨it', it'', n1, n2⟩ := ha.nth_row_pair m hlt
      simp only [hlt, if_true, n1, n2, hr1, hr2, usub_ok m (Nat.le_of_lt hlt),
        usub_ok m (Nat.sub_pos_of_lt hlt), unwrapWin, ok_bind, pure_eq]
    · obtain ⟨it', it'', n1, n2⟩ := ha.nth_row_pair m hgt
      simp only [Nat.lt_asymm hgt, if_false, n1, n2, hr1, hr2, if_true, usub_ok m (Nat.le_of_lt hgt),
        usub_ok m (Nat.sub_pos_of_lt hgt), unwrapWin, ok_bind, pure_eq]
  · rw [if_neg hv]
    exact ite_eq_right_iff.2 fun hr1 => ite_eq_right_iff.2 fun hr2 => if_pos (Classical.not_not.1 fun hne =>
      hv ⟨hr1, hr2, hne⟩)

end Toodee
