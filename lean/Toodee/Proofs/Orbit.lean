import Toodee.Proofs.ListLemmas
/-
  Arithmetic for C15, free of the model.  First four facts about shifts modulo `C` (the column rotation of
  `translate_with_wrap` and the injectivity of `translateG`) and the mirror image `R - 1 - r` of the flips.  Then the number theory of its cycle-leader loop: the map
  `r ↦ (r + A) % R` on `0 … R-1` has `g = gcd R A` orbits of length `L = R / g`, the orbit of `b` stays in the residue class of
  `b` modulo `g`, and the orbits of the bases `0 … g-1` together are all rows (counted, as the loop itself does with
  `swap_count`).  In the application `R` is `num_rows` and `A = R - row_mid` the step by which `next_row` advances
  (src/translate.rs:115-117).
-/
namespace Toodee

theorem mod_eq_of_eq_add {x C y : Nat} (hy : y < C) (h : x = y + C) : x % C = y := by
  rw [h, Nat.add_mod_right, Nat.mod_eq_of_lt hy]

theorem add_mod_sub_cancel {x k C : Nat} (hx : x < C) (hk : k ≤ C) : ((x + k) % C + (C - k)) % C = x := by
  rw [Nat.mod_add_mod, show x + k + (C - k) = x + C by omega, Nat.add_mod_right, Nat.mod_eq_of_lt hx]

theorem add_mod_inj {c c' k C : Nat} (hc : c < C) (hc' : c' < C) (he : (c + k) % C = (c' + k) % C) : c = c' := by
  have hk : k % C ≤ C := Nat.le_of_lt (Nat.mod_lt _ (by omega))
  rw [← Nat.add_mod_mod c k C, ← Nat.add_mod_mod c' k C] at he
  rw [← add_mod_sub_cancel hc hk, he, add_mod_sub_cancel hc' hk]

/-- a shift by the full length is no shift (the normalisation of `mid` at the head of `translate_with_wrap`) -/
theorem add_norm_mod (x k C : Nat) : (x + (if k = C then 0 else k)) % C = (x + k) % C := by
  split
  · next e => rw [e, Nat.add_zero, Nat.add_mod_right]
  · rfl

/-- the mirror image `R - 1 - r` of row `r` from an addition: keeps Nat subtraction, which is dear for `omega`, out of the
    arithmetic around `flipRowsG` -/
theorem mirror_eq {R r r' : Nat} (h : r + r' + 1 = R) : R - 1 - r = r' := by
  rw [← h, Nat.add_sub_cancel, Nat.add_sub_cancel_left]

theorem mirror_inj {R r r' : Nat} (hr : r < R) (hr' : r' < R) (he : R - 1 - r = R - 1 - r') : r = r' := by
  rw [← Nat.sub_sub_self (Nat.le_sub_one_of_lt hr), he, Nat.sub_sub_self (Nat.le_sub_one_of_lt hr')]

/-- the `k`-th row on the cycle of base `b` with step `A` -/
def orbitRow (R A b k : Nat) : Nat := (b + k * A) % R

theorem orbitRow_zero {R A b : Nat} (hb : b < R) : orbitRow R A b 0 = b := by
  simp [orbitRow, Nat.mod_eq_of_lt hb]

theorem orbitRow_lt {R A b k : Nat} (hR : 0 < R) : orbitRow R A b k < R := Nat.mod_lt _ hR

theorem orbitRow_succ (R A b k : Nat) : orbitRow R A b (k + 1) = (orbitRow R A b k + A) % R := by
  simp only [orbitRow, Nat.mod_add_mod, Nat.succ_mul, Nat.add_assoc]

/-- on the cycle with step `A = R - mr`, row `orbitRow (k+1)` lies `mr` rows above its predecessor `orbitRow k` (cyclically) -/
theorem orbitRow_pred {R A mr : Nat} (b k : Nat) (hA : A + mr = R) (hR : 0 < R) :
    orbitRow R A b k = (orbitRow R A b (k + 1) + mr) % R := by
  rw [orbitRow_succ, Nat.mod_add_mod, Nat.add_assoc, hA, Nat.add_mod_right, Nat.mod_eq_of_lt (orbitRow_lt hR)]

/-- the rows `orbitRow 1, …, orbitRow n` on the cycle of base `b` -/
def orbitRows (R A b n : Nat) : List Nat := (List.range n).map fun k => orbitRow R A b (k + 1)

theorem mem_orbitRows {R A b n r : Nat} : r ∈ orbitRows R A b n ↔ ∃ k, 0 < k ∧ k ≤ n ∧ r = orbitRow R A b k := by
  simp only [orbitRows, List.mem_map, List.mem_range]
  constructor
  · rintro ⟨k, hk, rfl⟩; exact ⟨k + 1, by omega, by omega, rfl⟩
  · rintro ⟨k, hk0, hkL, rfl⟩; exact ⟨k - 1, by omega, by rw [Nat.sub_add_cancel hk0]⟩

theorem orbitRows_succ (R A b n : Nat) : orbitRows R A b (n + 1) = orbitRows R A b n ++ [orbitRow R A b (n + 1)] := by
  simp [orbitRows, List.range_succ]

/-- what the loops need to know about the orbits of `r ↦ (r + A) % R`: `g` orbits of length `L`, the orbit of `b`
    lies in the residue class of `b` modulo `g` -/
structure OrbitFacts (R A g L : Nat) : Prop where
  card_mul : g * L = R
  dvd_step : g ∣ A
  returns : ∀ b, b < R → orbitRow R A b L = b
  /-- injective on any window of `L` consecutive steps -/
  injective : ∀ b {j k}, j < k → k < j + L → orbitRow R A b j ≠ orbitRow R A b k
  residue : ∀ b k, orbitRow R A b k % g = b % g

/-- `R = g * L`, `A = g * A'` with `L`, `A'` coprime -/
theorem OrbitFacts.of_mul {g L A' : Nat} (hg : 0 < g) (hcop : Nat.Coprime L A') : OrbitFacts (g * L) (g * A') g L where
  card_mul := rfl
  dvd_step := Nat.dvd_mul_right g A'
  returns := by
    intro b hb
    rw [orbitRow, show L * (g * A') = g * L * A' by rw [Nat.mul_left_comm, Nat.mul_assoc], Nat.add_mul_mod_self_left,
      Nat.mod_eq_of_lt hb]
  injective := by
    intro b j k hjk hk he
    have h1 := Nat.sub_mod_eq_zero_of_mod_eq he.symm
    have e : b + k * (g * A') - (b + j * (g * A')) = g * ((k - j) * A') := by
      rw [Nat.add_sub_add_left, ← Nat.sub_mul, Nat.mul_left_comm]
    rw [e] at h1
    -- `g * L ∣ g * ((k - j) * A')` with `L`, `A'` coprime: `L ∣ k - j`, but `0 < k - j < L`
    have := Nat.le_of_dvd (by omega)
      (hcop.dvd_of_dvd_mul_right (Nat.dvd_of_mul_dvd_mul_left hg (Nat.dvd_of_mod_eq_zero h1)))
    omega
  residue := by
    intro b k
    rw [orbitRow, Nat.mod_mod_of_dvd _ (Nat.dvd_mul_right g L), Nat.mul_left_comm, Nat.add_mul_mod_self_left]

theorem OrbitFacts.of_gcd {R A : Nat} (hR : 0 < R) : OrbitFacts R A (Nat.gcd R A) (R / Nat.gcd R A) := by
  have hg : 0 < Nat.gcd R A := Nat.gcd_pos_of_pos_left A hR
  have h := OrbitFacts.of_mul hg (Nat.coprime_div_gcd_div_gcd hg)
  rwa [Nat.mul_div_cancel' (Nat.gcd_dvd_left R A), Nat.mul_div_cancel' (Nat.gcd_dvd_right R A)] at h

/-- `i + 1 ≤ g` whole cycles fit below `R` -/
theorem OrbitFacts.mul_le {R A g L i : Nat} (of : OrbitFacts R A g L) (hi : i < g) : i * L + L ≤ R := by
  rw [← Nat.succ_mul, ← of.card_mul]; exact Nat.mul_le_mul_right L hi

theorem OrbitFacts.pos {R A g L : Nat} (of : OrbitFacts R A g L) (hR : 0 < R) : 0 < g ∧ 0 < L :=
  have h : 0 < g * L := of.card_mul ▸ hR
  ⟨Nat.pos_of_mul_pos_right h, Nat.pos_of_mul_pos_left h⟩

/-- `S` lists, each once, rows of the cycles with bases `0 … i-1`, `L` of each: the finished rows after `i` rounds of the
    outer loop (`swap_count = i * L`) -/
structure Cycles (R g L i : Nat) (S : List Nat) : Prop where
  length : S.length = i * L
  nodup : S.Nodup
  mem : ∀ r ∈ S, r < R ∧ r % g < i

theorem Cycles.zero {R g L : Nat} : Cycles R g L 0 [] :=
  ⟨by simp, List.nodup_nil, fun _ h => by cases h⟩

/-- the cycle of base `i` has not been touched -/
theorem Cycles.not_mem {R A g L i : Nat} {S : List Nat} (of : OrbitFacts R A g L) (hS : Cycles R g L i S)
    (hi : i < g) (k : Nat) : orbitRow R A i k ∉ S := by
  intro hin
  have := (hS.mem _ hin).2
  rw [of.residue, Nat.mod_eq_of_lt hi] at this
  omega

theorem Cycles.succ {R A g L i : Nat} {S : List Nat} (of : OrbitFacts R A g L) (hS : Cycles R g L i S)
    (hi : i < g) (hR : 0 < R) : Cycles R g L (i + 1) (S ++ orbitRows R A i L) where
  length := by simp [orbitRows, hS.length, Nat.succ_mul]
  nodup := by
    rw [List.nodup_append]
    refine ⟨hS.nodup, ?_, ?_⟩
    · rw [orbitRows, List.nodup_iff_pairwise_ne, List.pairwise_map]
      refine List.Pairwise.imp_of_mem ?_ (List.pairwise_lt_range (n := L))
      intro j k _ hk hjk
      have := List.mem_range.1 hk
      exact of.injective i (by omega) (by omega)
    · intro x hx y hy hxy
      obtain ⟨k, _, _, hk⟩ := mem_orbitRows.1 hy
      exact hS.not_mem of hi k (by rw [← hk, ← hxy]; exact hx)
  mem := by
    intro r hr
    rcases List.mem_append.1 hr with hr | hr
    · exact ⟨(hS.mem r hr).1, by have := (hS.mem r hr).2; omega⟩
    · obtain ⟨k, _, _, rfl⟩ := mem_orbitRows.1 hr
      exact ⟨orbitRow_lt hR, by rw [of.residue, Nat.mod_eq_of_lt hi]; omega⟩

/-- `R` different rows below `R` are all rows (`hgL` is `OrbitFacts.card_mul`; nothing else about the orbits is needed) -/
theorem Cycles.full {R g L : Nat} {S : List Nat} (hS : Cycles R g L g S) (hgL : g * L = R) :
    ∀ r, r < R → r ∈ S := fun _ hr =>
  ((nodup_lt_perm_range R S hS.nodup fun a ha => (hS.mem a ha).1).2 (hS.length.trans hgL)).mem_iff.2
    (List.mem_range.2 hr)

end Toodee
