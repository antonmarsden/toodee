import Toodee.Impl.Sort
import Toodee.Proofs.CellsLemmas
/-
  The side sort and the keys of the chosen line: `stablePerm` (the model of `sort_by` on `(index, &key)` pairs) is sorted and stable by
  core's `List.mergeSort` lemmas; the key line of the result is the old key line read through the permutation (`keys_permuted`);
  reading the key column: the `Col` cursor collected, one key per row (`VW.colKeys`, defined here).

  Then what C16, C17, C16Methods and `Recv.Sound.run_eq_spec` read their statements off: the two side sorts return a permutation or
  fail with a panic (`sideStable_sane`, `sideGiven_sane`); the two specification maps are cell maps of the view, injective
  (`sortColsG_cellMap`/`_cellInj`, `sortRowsG_…`); and each of the two method bodies as one equation (`Acc.Of.sortRowWith_eq`,
  `Acc.Of.sortColWith_eq`; `sideAlloc_guard` is the side-table check they share).
-/
namespace Toodee
variable {α : Type}

theorem stablePerm_perm (le : α → α → Bool) (keys : List α) :
    (stablePerm le keys).Perm (List.range keys.length) := by
  unfold stablePerm
  have h := (List.mergeSort_perm keys.zipIdx (fun a b => le a.1 b.1)).map (·.2)
  refine h.trans ?_
  have := List.zipIdx_map_snd 0 keys
  rw [List.range_eq_range', ← this]

/-- … of `range n` once the key line is known to have `n` entries -/
theorem stablePerm_perm_of_length (le : α → α → Bool) {keys : List α} {n : Nat} (h : keys.length = n) :
    (stablePerm le keys).Perm (List.range n) :=
  h ▸ stablePerm_perm le keys

theorem stablePerm_length (le : α → α → Bool) (keys : List α) : (stablePerm le keys).length = keys.length := by
  simp [stablePerm]

/-- the sorted list of `(key, index)` pairs behind `stablePerm`: the inner expression of the model's definition under a name;
    `stablePerm_eq : … := rfl` is what ties the two together -/
def sortedPairs (le : α → α → Bool) (keys : List α) : List (α × Nat) :=
  keys.zipIdx.mergeSort fun a b => le a.1 b.1

theorem stablePerm_eq (le : α → α → Bool) (keys : List α) :
    stablePerm le keys = (sortedPairs le keys).map (·.2) := rfl

theorem sortedPairs_length (le : α → α → Bool) (keys : List α) : (sortedPairs le keys).length = keys.length := by
  rw [sortedPairs, List.length_mergeSort, List.length_zipIdx]

theorem mem_sortedPairs {le : α → α → Bool} {keys : List α} {x : α × Nat} (hx : x ∈ sortedPairs le keys) :
    keys[x.2]? = some x.1 :=
  List.mem_zipIdx_iff_getElem?.1 (List.mem_mergeSort.1 hx)

/-- the sorted pairs are in the order of the keys and, among keys that compare equal both ways, of the original indices
    (core states stability of `mergeSort` through `zipIdxLE`) -/
theorem sortedPairs_pairwise (le : α → α → Bool) (htrans : ∀ a b c, le a b → le b c → le a c)
    (htotal : ∀ a b, le a b ∨ le b a) (keys : List α) :
    (sortedPairs le keys).Pairwise fun x y => List.zipIdxLE le x y = true := by
  unfold sortedPairs
  rw [← List.mergeSort_zipIdx, List.pairwise_map]
  refine (List.pairwise_mergeSort (List.zipIdxLE_trans fun a b c => htrans a.1 b.1 c.1)
    (List.zipIdxLE_total fun a b => by simpa using htotal a.1 b.1) keys.zipIdx.zipIdx).imp_of_mem fun {x y} hx hy h => ?_
  -- members of `keys.zipIdx.zipIdx` carry their index twice
  have idx : ∀ z ∈ (keys.zipIdx.zipIdx).mergeSort (List.zipIdxLE fun a b => le a.1 b.1), z.1.2 = z.2 := by
    intro z hz
    have := List.mem_zipIdx_iff_getElem?.1 (List.mem_mergeSort.1 hz)
    rw [List.getElem?_zipIdx] at this
    obtain ⟨a, _, e⟩ := Option.map_eq_some_iff.1 this
    rw [← e]
    exact Nat.zero_add _
  rw [List.zipIdxLE, idx x hx, idx y hy]
  exact h

theorem stablePerm_sorted (le : α → α → Bool) (htrans : ∀ a b c, le a b → le b c → le a c)
    (htotal : ∀ a b, le a b ∨ le b a) (keys : List α) :
    ((stablePerm le keys).filterMap (keys[·]?)).Pairwise (fun a b => le a b = true) := by
  have : (stablePerm le keys).filterMap (keys[·]?) = (sortedPairs le keys).map (·.1) := by
    rw [stablePerm_eq, List.filterMap_map, ← List.filterMap_eq_map]
    exact filterMap_congr_mem _ fun x hx => mem_sortedPairs hx
  rw [this, List.pairwise_map]
  exact List.pairwise_mergeSort (le := fun a b : α × Nat => le a.1 b.1)
    (fun a b c => htrans a.1 b.1 c.1) (fun a b => by simpa using htotal a.1 b.1) keys.zipIdx

/-- ties keep their order; the keys may be read through any `cell` that shows them (the chosen line of a buffer) -/
theorem stablePerm_stable (le : α → α → Bool) (htrans : ∀ a b c, le a b → le b c → le a c)
    (htotal : ∀ a b, le a b ∨ le b a) (keys : List α) (cell : Nat → Option α)
    (hcell : ∀ k, k < keys.length → cell k = keys[k]?) (i j : Nat) (hij : i < j) (hj : j < keys.length)
    (a b : α) (ha : cell ((stablePerm le keys).getD i 0) = some a) (hb : cell ((stablePerm le keys).getD j 0) = some b)
    (hba : le b a = true) : (stablePerm le keys).getD i 0 < (stablePerm le keys).getD j 0 := by
  have hj' : j < (sortedPairs le keys).length := by rw [sortedPairs_length]; exact hj
  have hi : i < (sortedPairs le keys).length := Nat.lt_trans hij hj'
  -- entry `k` of `stablePerm` is the index of the `k`-th sorted pair, and `cell` shows that pair's key there
  have key : ∀ k (hk : k < (sortedPairs le keys).length),
      (stablePerm le keys).getD k 0 = (sortedPairs le keys)[k].2 ∧
      cell (sortedPairs le keys)[k].2 = some (sortedPairs le keys)[k].1 := by
    intro k hk
    have m := mem_sortedPairs (List.getElem_mem hk)
    refine ⟨by rw [stablePerm_eq, List.getD_eq_getElem?_getD, List.getElem?_map, List.getElem?_eq_getElem hk]; rfl, ?_⟩
    rw [hcell _ (List.getElem?_eq_some_iff.1 m).1, m]
  obtain ⟨gi, ci⟩ := key i hi
  obtain ⟨gj, cj⟩ := key j hj'
  rw [gi, ci] at ha
  rw [gj, cj] at hb
  have hz := List.pairwise_iff_getElem.1 (sortedPairs_pairwise le htrans htotal keys) i j hi hj' hij
  rw [List.zipIdxLE, Option.some.inj ha, Option.some.inj hb, hba] at hz
  have hle : (sortedPairs le keys)[i].2 ≤ (sortedPairs le keys)[j].2 := by
    split at hz
    · rw [if_pos rfl] at hz
      exact of_decide_eq_true hz
    · exact absurd hz Bool.false_ne_true
  rw [gi, gj]
  -- equal entries of the duplicate-free `stablePerm` sit at the same place
  have hnd : (stablePerm le keys).Nodup := (stablePerm_perm le keys).nodup_iff.2 List.nodup_range
  rw [← stablePerm_length le keys] at hj
  exact Nat.lt_of_le_of_ne hle fun e => Nat.ne_of_lt hij
    ((List.getD_inj (Nat.lt_trans hij hj) hj hnd).1 ((gi.trans e).trans gj.symm))

/-- A line of `n` cells read through `cellOld` before and `cellNew` after a cell permutation that brings the line's `p[k]`-th cell to its
    `k`-th place: the new keys are the old keys in the order `p` lists them. -/
theorem keys_permuted {old new : List α} {n : Nat} {p : List Nat} (hp : p.Perm (List.range n)) (ho : old.length = n)
    (cellOld cellNew : Nat → Option α) (hold : ∀ k, old[k]? = if k < n then cellOld k else none)
    (hnew : ∀ k, new[k]? = if k < n then cellNew k else none) (hmove : ∀ k, k < n → cellNew k = cellOld (p.getD k k)) :
    new = p.filterMap (old[·]?) := by
  have hlen : p.length = n := by rw [hp.length_eq, List.length_range]
  have hsome : ∀ x ∈ p, (old[x]?).isSome := fun x hx => by
    rw [List.getElem?_eq_getElem (by rw [ho]; exact List.mem_range.1 (hp.mem_iff.1 hx))]; rfl
  apply List.ext_getElem?
  intro k
  rw [hnew k, filterMap_getElem?_of_isSome _ _ hsome]
  by_cases hk : k < n
  · have hpk : p[k]? = some (p.getD k k) := by
      rw [List.getD_eq_getElem?_getD, List.getElem?_eq_getElem (by rw [hlen]; exact hk)]; rfl
    rw [if_pos hk, hpk, hmove k hk]
    exact ((hold _).trans (if_pos (perm_range_getD_lt hp k k hk))).symm
  · rw [if_neg hk, List.getElem?_eq_none (by rw [hlen]; exact Nat.le_of_not_lt hk)]; rfl

theorem sort_collect_col {it : Col} {k n : Nat} (hwf : it.WF k n) :
    it.collect (it.v.len + 2) = .ok (it.abs k) :=
  Col.collect_all hwf

/-- the keys of column `c`, top to bottom -/
def VW.colKeys (v : VW) (buf : List α) (c : Nat) : List α := (List.range v.numRows).filterMap fun r => buf[v.pos c r]?

theorem VW.Inv.colKeys_length {v : VW} {buf : List α} (h : v.Inv buf.length) {c : Nat} (hc : c < v.numCols) :
    (v.colKeys buf c).length = v.numRows := by
  rw [VW.colKeys, filterMap_length_of_isSome _ _ fun r hr => h.cell_isSome hc (List.mem_range.1 hr), List.length_range]

theorem VW.Inv.colKeys_getElem? {v : VW} {b : List α} (h : v.Inv b.length) {c : Nat} (hc : c < v.numCols) (k : Nat) :
    (v.colKeys b c)[k]? = if k < v.numRows then b[v.pos c k]? else none := by
  unfold VW.colKeys
  rw [filterMap_getElem?_of_isSome _ _ fun r hr => h.cell_isSome hc (List.mem_range.1 hr)]
  by_cases hk : k < v.numRows
  · rw [if_pos hk, List.getElem?_range hk]; rfl
  · rw [if_neg hk, List.getElem?_eq_none (by rw [List.length_range]; omega)]; rfl

theorem sideStable_sane (le : α → α → Bool) : (sideStable le).Sane :=
  fun keys => .inr ⟨_, rfl, stablePerm_perm le keys⟩

theorem sideGiven_sane_on (p : List Nat) (keys : List α) (hp : p.Perm (List.range keys.length)) :
    (sideGiven p : SideSort α) keys = .ok p ∧ p.Perm (List.range keys.length) := ⟨by simp [sideGiven, hp], hp⟩

/-- the side sort of the unstable methods (whatever permutation it is given) respects std's contract on every key list, so the
    receiver-level theorems (`C04_run_view`, `C13_run_owned`, `C13_run_ext`, the history theorems: all under `op.Sane`) apply
    to the unstable sorts exactly as they do to the stable ones -/
theorem sideGiven_sane (p : List Nat) : (sideGiven p : SideSort α).Sane := by
  intro keys
  by_cases hp : p.Perm (List.range keys.length)
  · exact .inr ⟨p, sideGiven_sane_on p keys hp⟩
  · exact .inl (if_neg hp)

theorem sortColsG_cellMap {C R : Nat} {p : List Nat} (hp : p.Perm (List.range C)) : CellMap C R (sortColsG p) :=
  fun c _ hc hr => ⟨perm_range_getD_lt hp c c hc, hr⟩

theorem sortColsG_cellInj {C R : Nat} {p : List Nat} (hp : p.Perm (List.range C)) : CellInj C R (sortColsG p) := by
  intro c r c' r' hc _ hc' _ he
  have h2 : r = r' := congrArg Prod.snd he
  rw [h2, perm_range_getD_inj hp c c' hc hc' (congrArg Prod.fst he)]

theorem sortRowsG_cellMap {C R : Nat} {p : List Nat} (hp : p.Perm (List.range R)) : CellMap C R (sortRowsG p) :=
  fun _ r hc hr => ⟨hc, perm_range_getD_lt hp r r hr⟩

theorem sortRowsG_cellInj {C R : Nat} {p : List Nat} (hp : p.Perm (List.range R)) : CellInj C R (sortRowsG p) := by
  intro c r c' r' _ hr _ hr' he
  have h1 : c = c' := congrArg Prod.fst he
  rw [h1, perm_range_getD_inj hp r r' hr hr' (congrArg Prod.snd he)]

/-- the side-table allocation that both bodies put before the side sort: "capacity overflow" beyond `lim` entries -/
theorem sideAlloc_guard {β : Type} (lim n : Nat) (k : Res β) :
    (if (!sideAllocOk lim n) = true then (throw Err.panic : Res PUnit) >>= fun _ => k else k) =
      if n ≤ lim then k else .error .panic := by
  unfold sideAllocOk
  by_cases hl : n ≤ lim
  · rw [if_pos hl, decide_eq_true hl]; rfl
  · rw [if_neg hl, decide_eq_false hl]; rfl

/-- the one body of the six `sort_*_row*` methods as one equation: the assertion and the side-table allocation guard the side sort,
    whose outcome decides the rest (`applyColPerm` is the only writer and runs after it).  `hidx` is what `VW.Inv.indexRow_ok`
    (Index.lean) delivers for the implementors' `Index<usize>`. -/
theorem Acc.Of.sortRowWith_eq {a : Acc} {v : VW} {buf : List α} (ha : a.Of v buf.length) (h : v.Inv buf.length)
    (indexRow : Nat → Res Win) (hidx : ∀ r, r < v.numRows → indexRow r = .ok (v.rowWin r))
    (lim : Nat) (side : SideSort α) (row : Nat) :
    a.sortRowWith indexRow buf lim side row =
      if row < v.numRows ∧ v.numCols ≤ lim then side (readWin buf (v.rowWin row)) >>= fun p => a.applyColPerm buf p
      else .error .panic := by
  unfold Acc.sortRowWith
  rw [ha.rows]
  by_cases hr : row < v.numRows
  · simp only [hr, not_true_eq_false, if_false, ok_bind, hidx row hr,
      (show (readWin buf (v.rowWin row)).length = v.numCols from readWin_length buf _ (h.rowWin_inside hr)), true_and]
    exact sideAlloc_guard lim v.numCols _
  · simp only [hr, not_false_eq_true, if_true, throw_eq, err_bind, false_and, if_false]

/-- the one body of the five `sort_*_col*` methods as one equation (cf. `Acc.Of.sortRowWith_eq`).  `hcol` is what `TD.Inv.col_spec` /
    `VW.Inv.col_spec` (IterLemmas) deliver for the implementors' `col()`. -/
theorem Acc.Of.sortColWith_eq {a : Acc} {v : VW} {buf : List α} (ha : a.Of v buf.length) (h : v.Inv buf.length)
    (col : Nat → Res Col)
    (hcol : ∀ c, c < v.numCols → ∃ it, col c = .ok it ∧ it.WF v.numRows buf.length ∧
      it.abs v.numRows = (List.range v.numRows).map fun r => v.pos c r)
    (swapRows : List α → Nat → Nat → Res (List α)) (lim : Nat) (side : SideSort α) (c : Nat) :
    a.sortColWith col swapRows buf lim side c =
      if c < v.numCols ∧ v.numRows ≤ lim then side (v.colKeys buf c) >>= fun p => applyRowPerm swapRows buf p
      else .error .panic := by
  unfold Acc.sortColWith
  rw [ha.cols]
  by_cases hc : c < v.numCols
  · obtain ⟨it, e, hwf, habs⟩ := hcol c hc
    have hk : (it.abs v.numRows).filterMap (fun p => buf[p]?) = v.colKeys buf c := by
      rw [habs, List.filterMap_map]; rfl
    simp only [hc, not_true_eq_false, if_false, ok_bind, e, sort_collect_col hwf, hk, h.colKeys_length hc,
      true_and]
    exact sideAlloc_guard lim v.numRows _
  · simp only [hc, not_false_eq_true, if_true, throw_eq, err_bind, false_and, if_false]

end Toodee
