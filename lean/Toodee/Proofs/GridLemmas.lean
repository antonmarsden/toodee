import Toodee.Spec.OpsSpec
import Toodee.Proofs.ListLemmas
import Toodee.Proofs.Index
import Toodee.Proofs.IterLemmas
/-
  A row-major buffer cut into rows and back, in six parts: `flatten` of rows of equal length; `toRows`; `TD.grid` of an array with
  the shape invariant (its rows, their cells `TD.Inv.gcell_grid`, `TD.Inv.gcols_grid`); `TD.ofRows`, the array assembled from rows (a definition of
  this file, in which the results of `insert_*` / `remove_*` and of the drains are stated), with its invariant, its grid
  and the rows before a given one (`TD.Inv.ofRows_take`, `TD.Inv.take_rows`); the cells of a grid
  (`gcell`, `gcols`, `gridOf`, and `mapIdx_set_eq_gridOf` for one cell replaced); `VW.grid`, the rows of cells a window shows, with
  `VW.Inv.toOwned_ok`.
-/
namespace Toodee
variable {α : Type}

/-! ### `flatten` of rows of equal length -/

theorem take_flatten_uniform (C : Nat) (l : List (List α)) (hl : ∀ r ∈ l, r.length = C) (i : Nat) :
    l.flatten.take (i * C) = (l.take i).flatten := by
  induction l generalizing i with
  | nil => simp
  | cons a l ih =>
    cases i with
    | zero => simp
    | succ i =>
      have h1 : a.length = C := hl a (by simp)
      have h2 := ih (fun r hr => hl r (by simp [hr])) i
      have e : (i + 1) * C = a.length + i * C := by rw [Nat.add_mul, Nat.one_mul, h1, Nat.add_comm]
      simp only [List.flatten_cons, List.take_succ_cons, e, List.take_length_add_append, h2]

theorem drop_flatten_uniform (C : Nat) (l : List (List α)) (hl : ∀ r ∈ l, r.length = C) (i : Nat) :
    l.flatten.drop (i * C) = (l.drop i).flatten := by
  -- `take ++ drop` is the whole list on both sides, and the `take` parts agree
  have h : l.flatten.take (i * C) ++ l.flatten.drop (i * C) = (l.take i).flatten ++ (l.drop i).flatten := by
    rw [List.take_append_drop, ← List.flatten_append, List.take_append_drop]
  rw [take_flatten_uniform C l hl i] at h
  exact List.append_cancel_left h

theorem getElem?_flatten_uniform (C : Nat) (l : List (List α)) (hl : ∀ r ∈ l, r.length = C) (i c : Nat)
    (hc : c < C) : l.flatten[i * C + c]? = (l[i]?).bind (·[c]?) := by
  -- position `i * C + c` is position `c` once `i` rows are dropped: in the first row left, if there is one
  rw [← List.getElem?_drop, drop_flatten_uniform C l hl, ← List.head?_drop (l := l)]
  cases hd : l.drop i with
  | nil => rfl
  | cons a t =>
    have ha : a.length = C := hl a (List.mem_of_mem_drop (hd ▸ List.mem_cons_self ..))
    rw [List.flatten_cons, List.getElem?_append_left (ha ▸ hc)]
    rfl

/-- inserting a row = inserting its cells at the row boundary -/
theorem flatten_insertIdx_uniform (C : Nat) (l : List (List α)) (hl : ∀ r ∈ l, r.length = C) (i : Nat)
    (xs : List α) (hi : i ≤ l.length) :
    (l.insertIdx i xs).flatten = l.flatten.take (i * C) ++ xs ++ l.flatten.drop (i * C) := by
  rw [take_flatten_uniform C l hl, drop_flatten_uniform C l hl, insertIdx_eq_take_append_drop l i xs hi]
  simp

/-- erasing a row = cutting its cells out -/
theorem flatten_eraseIdx_uniform (C : Nat) (l : List (List α)) (hl : ∀ r ∈ l, r.length = C) (i : Nat) :
    (l.eraseIdx i).flatten = l.flatten.take (i * C) ++ l.flatten.drop ((i + 1) * C) := by
  rw [take_flatten_uniform C l hl, drop_flatten_uniform C l hl, List.eraseIdx_eq_take_drop_succ]
  simp

/-! ### `toRows` -/

theorem toRows_length (c : Nat) (data : List α) : (toRows c data).length = data.length / c := by
  simp [toRows]

theorem toRows_nil (c : Nat) : toRows c ([] : List α) = [] := by
  simp [toRows]

theorem toRows_row_length (c : Nat) (data : List α) : ∀ ρ ∈ toRows c data, ρ.length = c := by
  intro r hr
  simp only [toRows, List.mem_map, List.mem_range] at hr
  obtain ⟨k, hk, rfl⟩ := hr
  have hc : 0 < c := by
    rcases Nat.eq_zero_or_pos c with rfl | h
    · simp at hk
    · exact h
  have h1 : (k + 1) * c ≤ data.length := (Nat.le_div_iff_mul_le hc).1 hk
  rw [Nat.add_mul, Nat.one_mul, Nat.add_comm] at h1
  rw [List.length_take, List.length_drop]
  exact Nat.min_eq_left (Nat.le_sub_of_add_le h1)

/-- cutting `row ++ rest` into rows of `|row|` cells: `row` first, then `rest` cut the same way -/
theorem toRows_append (c : Nat) (hc : 0 < c) (row rest : List α) (hr : row.length = c) :
    toRows c (row ++ rest) = row :: toRows c rest := by
  unfold toRows
  have e : (row ++ rest).length / c = rest.length / c + 1 := by
    rw [List.length_append, hr, Nat.add_comm, Nat.add_div_right _ hc]
  rw [e, List.range_succ_eq_map, List.map_cons, List.map_map]
  congr 1
  · simp [← hr]
  · apply List.map_congr_left
    intro k _
    have e2 : (k + 1) * c = row.length + k * c := by rw [Nat.add_mul, Nat.one_mul, hr, Nat.add_comm]
    simp only [Function.comp, Nat.succ_eq_add_one, e2, List.drop_length_add_append]

theorem toRows_flatten (c : Nat) (hc : 0 < c) (g : List (List α)) (hg : ∀ ρ ∈ g, ρ.length = c) :
    toRows c g.flatten = g := by
  induction g with
  | nil => simp [toRows]
  | cons a g ih =>
    rw [List.flatten_cons, toRows_append c hc a _ (hg a (by simp)), ih (fun ρ hρ => hg ρ (by simp [hρ]))]

theorem toRows_single (xs : List α) (hx : xs ≠ []) : toRows xs.length xs = [xs] := by
  have := toRows_flatten xs.length (List.length_pos_iff.2 hx) [xs] (by simp)
  simpa using this

theorem toRows_one (xs : List α) : toRows 1 xs = xs.map fun x => [x] := by
  have hf : (xs.map fun x => [x]).flatten = xs := List.flatMap_singleton' xs
  have := toRows_flatten 1 (by omega) (xs.map fun x => [x]) (by simp)
  rw [hf] at this
  exact this

theorem flatten_toRows {c R : Nat} {data : List α} (h : data.length = c * R) : (toRows c data).flatten = data := by
  replace h : data.length = R * c := h.trans (Nat.mul_comm c R)
  rcases Nat.eq_zero_or_pos c with rfl | hc
  · rw [List.eq_nil_of_length_eq_zero h, toRows_nil]; rfl
  · induction R generalizing data with
    | zero => rw [List.eq_nil_of_length_eq_zero (h.trans (Nat.zero_mul c)), toRows_nil]; rfl
    | succ R ih =>
      have h1 : (data.take c).length = c := by
        rw [List.length_take, h, Nat.add_mul, Nat.one_mul]; exact Nat.min_eq_left (Nat.le_add_left _ _)
      have h2 : (data.drop c).length = R * c := by
        rw [List.length_drop, h, Nat.add_mul, Nat.one_mul, Nat.add_sub_cancel]
      conv => lhs; rw [← List.take_append_drop c data]
      rw [toRows_append c hc _ _ h1, List.flatten_cons, ih h2, List.take_append_drop]

/-! ### `TD.grid`: the rows of an array -/

theorem TD.grid_row_length (t : TD α) : ∀ ρ ∈ t.grid, ρ.length = t.numCols :=
  toRows_row_length _ _

theorem TD.Inv.grid_length {t : TD α} (h : t.Inv) : t.grid.length = t.numRows := by
  unfold TD.grid
  rw [toRows_length, h.len]
  rcases Nat.eq_zero_or_pos t.numCols with h0 | hc
  · rw [h0, h.zero.1 h0]
  · exact Nat.mul_div_cancel_left _ hc

theorem TD.grid_empty : (⟨[], 0, 0⟩ : TD α).grid = [] := toRows_nil 0

theorem TD.Inv.grid_eq_nil {t : TD α} (h : t.Inv) : t.grid = [] ↔ t.numRows = 0 := by
  rw [← h.grid_length]
  exact List.length_eq_zero_iff.symm

theorem TD.Inv.data_eq_flatten_grid {t : TD α} (h : t.Inv) : t.data = t.grid.flatten := by
  unfold TD.grid
  rw [flatten_toRows h.len]

theorem TD.Inv.grid_getElem? {t : TD α} (h : t.Inv) {i : Nat} (hi : i < t.numRows) :
    t.grid[i]? = some ((t.data.drop (i * t.numCols)).take t.numCols) := by
  have hC := h.cols_pos hi
  unfold TD.grid toRows
  rw [List.getElem?_map, h.len, Nat.mul_div_cancel_left _ hC, List.getElem?_range hi]
  rfl

theorem TD.Inv.gcell_grid {t : TD α} (h : t.Inv) {c r : Nat} (hc : c < t.numCols) (hr : r < t.numRows) :
    gcell t.grid c r = t.data[t.pos c r]? := by
  unfold gcell
  rw [h.grid_getElem? hr, Option.bind_some, List.getElem?_take, if_pos hc, List.getElem?_drop]
  rfl

theorem TD.Inv.gcols_grid {t : TD α} (h : t.Inv) : gcols t.grid = t.numCols := by
  have hl := h.grid_length
  have hrow := t.grid_row_length
  unfold gcols
  match hg : t.grid with
  | [] =>
    rw [hg] at hl
    have : t.numCols = 0 := h.zero.2 hl.symm
    simp [this]
  | ρ :: rest =>
    rw [hg] at hrow
    simp [hrow ρ (List.mem_cons_self ..)]

/-! ### `TD.ofRows`: an array from its rows -/

/-- the array whose rows are `g`, each of `c` cells; a dimension is `0` as soon as the other is, which is how `remove_row`,
    `remove_col` and the leak of a row drain record an array without cells -/
def TD.ofRows (c : Nat) (g : List (List α)) : TD α :=
  ⟨g.flatten, if c = 0 then 0 else g.length, if g.length = 0 then 0 else c⟩

theorem TD.ofRows_inv {c : Nat} {g : List (List α)} (hg : ∀ ρ ∈ g, ρ.length = c) (hw : g.flatten.length < WORD) :
    (TD.ofRows c g).Inv := by
  -- in each of the four cases (`c = 0` or not, `g = []` or not) both dimensions agree with `g.length * c`, and one is `0` iff the other is
  refine ⟨?_, ?_, hw⟩
  · show g.flatten.length = (if g.length = 0 then 0 else c) * (if c = 0 then 0 else g.length)
    rw [flatten_length_uniform c g hg]
    split <;> split <;> simp [*, Nat.mul_comm]
  · show (if g.length = 0 then 0 else c) = 0 ↔ (if c = 0 then 0 else g.length) = 0
    split <;> split <;> simp [*]

theorem TD.ofRows_grid {c : Nat} {g : List (List α)} (hg : ∀ ρ ∈ g, ρ.length = c) :
    (TD.ofRows c g).grid = if c = 0 then [] else g := by
  show toRows (if g.length = 0 then 0 else c) g.flatten = _
  by_cases hc : c = 0
  · have hnil : g.flatten = [] := List.eq_nil_of_length_eq_zero (by rw [flatten_length_uniform c g hg, hc, Nat.mul_zero])
    rw [if_pos hc, hnil, toRows_nil]
  · rw [if_neg hc]
    cases g with
    | nil => exact toRows_nil _
    | cons ρ g => exact toRows_flatten c (Nat.pos_of_ne_zero hc) _ hg

theorem TD.ofRows_data (c : Nat) (g : List (List α)) : (TD.ofRows c g).data = g.flatten := rfl

theorem TD.ofRows_numRows {c : Nat} (hc : c ≠ 0) (g : List (List α)) : (TD.ofRows c g).numRows = g.length := if_neg hc

theorem TD.ofRows_numCols (c : Nat) {g : List (List α)} (hg : g ≠ []) : (TD.ofRows c g).numCols = c :=
  if_neg fun h0 => hg (List.eq_nil_of_length_eq_zero h0)

/-- only the row count can be `0` (the last row removed) -/
theorem TD.ofRows_of_cols_ne {c : Nat} (hc : c ≠ 0) (g : List (List α)) :
    TD.ofRows c g = ⟨g.flatten, g.length, if g.length = 0 then 0 else c⟩ := by
  rw [TD.ofRows, if_neg hc]

/-- only the row length can be `0` (the last column removed) -/
theorem TD.ofRows_of_rows_ne (c : Nat) {g : List (List α)} (hg : g ≠ []) :
    TD.ofRows c g = ⟨g.flatten, if c = 0 then 0 else g.length, c⟩ := by
  rw [TD.ofRows, if_neg fun h0 => hg (List.eq_nil_of_length_eq_zero h0)]

theorem TD.ofRows_grid_of_ne {c : Nat} {g : List (List α)} (hg : ∀ ρ ∈ g, ρ.length = c) (hc : c ≠ 0) :
    (TD.ofRows c g).grid = g :=
  (TD.ofRows_grid hg).trans (if_neg hc)

/-- rows no more and no longer than those of a valid array hold fewer cells than a word -/
theorem TD.Inv.flatten_word {t : TD α} (h : t.Inv) {c : Nat} {g : List (List α)} (hg : ∀ ρ ∈ g, ρ.length = c)
    (hr : g.length ≤ t.numRows) (hc : c ≤ t.numCols) : g.flatten.length < WORD := by
  rw [flatten_length_uniform c g hg]
  exact Nat.lt_of_le_of_lt (Nat.mul_le_mul hr hc) (by rw [Nat.mul_comm, ← h.len]; exact h.word)

/-- the rows before `i` of a valid array, as an array -/
theorem TD.Inv.ofRows_take {t : TD α} (h : t.Inv) {i : Nat} (hi : i ≤ t.numRows) :
    TD.ofRows t.numCols (t.grid.take i) = ⟨t.data.take (i * t.numCols), i, if i = 0 then 0 else t.numCols⟩ := by
  have hflat : (t.grid.take i).flatten = t.data.take (i * t.numCols) := by
    rw [h.data_eq_flatten_grid, take_flatten_uniform _ _ t.grid_row_length]
  have hlen : (t.grid.take i).length = i := by rw [List.length_take, h.grid_length, Nat.min_eq_left hi]
  rw [TD.ofRows, hflat, hlen]
  by_cases hC : t.numCols = 0
  · have h0 : i = 0 := Nat.le_zero.1 (h.zero.1 hC ▸ hi)
    rw [if_pos hC, h0]
  · rw [if_neg hC]

/-- … and they are a valid array: what a leaked row drain leaves behind, and a panic inside `insert_row` -/
theorem TD.Inv.take_rows {t : TD α} (h : t.Inv) {i : Nat} (hi : i ≤ t.numRows) :
    (⟨t.data.take (i * t.numCols), i, if i = 0 then 0 else t.numCols⟩ : TD α).Inv ∧
      (⟨t.data.take (i * t.numCols), i, if i = 0 then 0 else t.numCols⟩ : TD α).grid = t.grid.take i := by
  have hrow : ∀ ρ ∈ t.grid.take i, ρ.length = t.numCols := fun ρ hρ => t.grid_row_length ρ (List.mem_of_mem_take hρ)
  rw [← h.ofRows_take hi]
  refine ⟨TD.ofRows_inv hrow (h.flatten_word hrow (by rw [List.length_take, h.grid_length]; exact Nat.min_le_right _ _)
    (Nat.le_refl _)), (TD.ofRows_grid hrow).trans ?_⟩
  by_cases hC : t.numCols = 0
  · have h0 : i = 0 := Nat.le_zero.1 (h.zero.1 hC ▸ hi)
    rw [if_pos hC, h0, List.take_zero]
  · exact if_neg hC

/-! ### the cells of a grid: `gcell`, `gcols`, `gridOf` -/

theorem gridOf_length (C R : Nat) (f : Nat → Nat → Option α) : (gridOf C R f).length = R := by
  simp [gridOf]

theorem gridOf_getElem? (C R : Nat) (f : Nat → Nat → Option α) (r : Nat) :
    (gridOf C R f)[r]? = if r < R then some ((List.range C).filterMap fun c => f c r) else none := by
  unfold gridOf
  rw [List.getElem?_map]
  by_cases hr : r < R
  · rw [if_pos hr, List.getElem?_range hr]; rfl
  · rw [if_neg hr, List.getElem?_eq_none (by simpa using hr)]; rfl

theorem gcell_gridOf (C R : Nat) (f : Nat → Nat → Option α) (hf : ∀ c r, c < C → r < R → (f c r).isSome)
    {c r : Nat} (hc : c < C) (hr : r < R) : gcell (gridOf C R f) c r = f c r := by
  unfold gcell
  rw [gridOf_getElem?, if_pos hr]
  show ((List.range C).filterMap fun c => f c r)[c]? = _
  rw [filterMap_getElem?_of_isSome _ _ (fun x hx => hf x r (List.mem_range.1 hx) hr), List.getElem?_range hc]
  rfl

theorem gcols_gridOf (C R : Nat) (f : Nat → Nat → Option α) (hf : ∀ c r, c < C → r < R → (f c r).isSome)
    (hz : R = 0 → C = 0) : gcols (gridOf C R f) = C := by
  unfold gcols gridOf
  rcases Nat.eq_zero_or_pos R with h0 | hR
  · rw [h0, hz h0]; rfl
  · obtain ⟨R', rfl⟩ : ∃ R', R = R' + 1 := ⟨R - 1, by omega⟩
    rw [List.range_succ_eq_map, List.map_cons, List.head?_cons]
    show ((List.range C).filterMap fun c => f c 0).length = C
    rw [filterMap_length_of_isSome _ _ (fun x hx => hf x 0 (List.mem_range.1 hx) hR), List.length_range]

theorem gridOf_congr (C R : Nat) (f f' : Nat → Nat → Option α)
    (hff : ∀ c r, c < C → r < R → f c r = f' c r) : gridOf C R f = gridOf C R f' := by
  unfold gridOf
  apply List.map_congr_left
  intro r hr
  apply filterMap_congr_mem
  intro c hc
  exact hff c r (List.mem_range.1 hc) (List.mem_range.1 hr)

theorem gridOf_row_length (C R : Nat) (f : Nat → Nat → Option α) (hf : ∀ c r, c < C → r < R → (f c r).isSome) :
    ∀ ρ ∈ gridOf C R f, ρ.length = C := by
  intro ρ hρ
  unfold gridOf at hρ
  obtain ⟨r, hr, rfl⟩ := List.mem_map.1 hρ
  rw [filterMap_length_of_isSome _ _ (fun c hc => hf c r (List.mem_range.1 hc) (List.mem_range.1 hr)), List.length_range]

theorem gridOf_reverse (C R : Nat) (f : Nat → Nat → Option α) :
    (gridOf C R f).reverse = gridOf C R (fun c r => f c (R - 1 - r)) := by
  unfold gridOf
  rw [← List.map_reverse, reverse_range, List.map_map]
  rfl

theorem gridOf_map_reverse (C R : Nat) (f : Nat → Nat → Option α) :
    (gridOf C R f).map List.reverse = gridOf C R (fun c r => f (C - 1 - c) r) := by
  unfold gridOf
  rw [List.map_map]
  apply List.map_congr_left
  intro r _
  show ((List.range C).filterMap fun c => f c r).reverse = _
  rw [← List.filterMap_reverse, reverse_range, List.filterMap_map]
  rfl

theorem gridOf_map_map {β : Type} (C R : Nat) (f : Nat → Nat → Option α) (g : α → β) :
    (gridOf C R f).map (List.map g) = gridOf C R (fun c r => (f c r).map g) := by
  unfold gridOf
  rw [List.map_map]
  apply List.map_congr_left
  intro r _
  exact List.map_filterMap ..

theorem grid_eq_gridOf (C : Nat) (g : List (List α)) (hg : ∀ ρ ∈ g, ρ.length = C) :
    g = gridOf C g.length (fun c r => gcell g c r) := by
  apply List.ext_getElem?
  intro i
  rw [gridOf_getElem?]
  by_cases hi : i < g.length
  · rw [if_pos hi, List.getElem?_eq_getElem hi]
    congr 1
    conv => lhs; rw [← range_filterMap_getElem? g[i], hg g[i] (List.getElem_mem hi)]
    apply filterMap_congr_mem
    intro c _
    unfold gcell
    rw [List.getElem?_eq_getElem hi]
    rfl
  · rw [if_neg hi, List.getElem?_eq_none (by omega)]

theorem toRows_eq_gridOf (C R : Nat) (data : List α) (hl : data.length = C * R) (hz : C = 0 → R = 0) :
    toRows C data = gridOf C R (fun c r => data[r * C + c]?) := by
  unfold toRows gridOf
  rcases Nat.eq_zero_or_pos C with h0 | hC
  · rw [hz h0, h0]; simp
  · rw [hl, Nat.mul_div_cancel_left _ hC]
    apply List.map_congr_left
    intro r _
    exact take_drop_eq_filterMap data (r * C) C

/-- setting cell `(c, r)` of a grid, as the plain model's `set` / `set_in_row` step does it (`gstepM`, Spec/History.lean), is `gridOf`
    with that one cell replaced -/
theorem mapIdx_set_eq_gridOf (C : Nat) (g : List (List α)) (hg : ∀ ρ ∈ g, ρ.length = C) (c r : Nat) (x : α) :
    (g.mapIdx fun r' ρ => if r' = r then ρ.set c x else ρ)
      = gridOf C g.length fun c' r' => if (c', r') = (c, r) then some x else gcell g c' r' := by
  have hg' : ∀ ρ ∈ (g.mapIdx fun r' ρ => if r' = r then ρ.set c x else ρ), ρ.length = C := by
    intro ρ hρ
    obtain ⟨i, hi, rfl⟩ := List.mem_mapIdx.1 hρ
    split
    · rw [List.length_set]; exact hg _ (List.getElem_mem hi)
    · exact hg _ (List.getElem_mem hi)
  rw [grid_eq_gridOf C _ hg', List.length_mapIdx]
  apply gridOf_congr
  intro c' r' hc' hr'
  unfold gcell
  rw [List.getElem?_mapIdx, List.getElem?_eq_getElem hr']
  show (if r' = r then g[r'].set c x else g[r'])[c']? = _
  by_cases hrr : r' = r
  · subst hrr
    rw [if_pos rfl, List.getElem?_set]
    by_cases hcc : c = c'
    · subst hcc
      rw [if_pos rfl, if_pos (by rw [hg _ (List.getElem_mem hr')]; exact hc'), if_pos rfl]
    · rw [if_neg hcc, if_neg (fun e => hcc (congrArg Prod.fst e).symm)]
      rfl
  · rw [if_neg hrr, if_neg (fun e => hrr (congrArg Prod.snd e))]
    rfl

/-! ### `VW.grid`: the rows of cells a window shows -/

/-- the rows of cells the window `v` shows of the root buffer `buf` -/
def VW.grid (v : VW) (buf : List α) : List (List α) := gridOf v.numCols v.numRows fun c r => buf[v.pos c r]?

section window
variable {v : VW} {buf : List α} (h : v.Inv buf.length)
include h

private theorem VW.grid_isSome : ∀ c r, c < v.numCols → r < v.numRows → (buf[v.pos c r]?).isSome :=
  fun _ _ hc hr => h.cell_isSome hc hr

omit h in
theorem VW.grid_length : (v.grid buf).length = v.numRows := gridOf_length ..

theorem VW.Inv.gcols_grid : gcols (v.grid buf) = v.numCols :=
  gcols_gridOf _ _ _ (VW.grid_isSome h) h.zero.2

theorem VW.Inv.gcell_grid {c r : Nat} (hc : c < v.numCols) (hr : r < v.numRows) : gcell (v.grid buf) c r = buf[v.pos c r]? :=
  gcell_gridOf _ _ _ (VW.grid_isSome h) hc hr

omit h in
/-- the key row of a row sort is the grid's row -/
theorem VW.grid_row {row : Nat} (hr : row < v.numRows) : (v.grid buf)[row]?.getD [] = readWin buf (v.rowWin row) := by
  unfold VW.grid
  rw [gridOf_getElem?, if_pos hr]
  show _ = (buf.drop (v.pos 0 row)).take v.numCols
  rw [take_drop_eq_filterMap]
  simp only [VW.pos_zero_add]
  rfl

/-- the key column of a column sort is the grid's column -/
theorem VW.Inv.grid_col {col : Nat} (hc : col < v.numCols) :
    (v.grid buf).filterMap (·[col]?) = (List.range v.numRows).filterMap fun r => buf[v.pos col r]? := by
  unfold VW.grid gridOf
  rw [List.filterMap_map]
  apply filterMap_congr_mem
  intro r hr
  show ((List.range v.numCols).filterMap fun c => buf[v.pos c r]?)[col]? = _
  rw [filterMap_getElem?_of_isSome _ _ (fun c hc' => h.cell_isSome (List.mem_range.1 hc') (List.mem_range.1 hr)),
    List.getElem?_range hc]
  rfl

theorem VW.Inv.grid_rows : ∀ ρ ∈ v.grid buf, ρ.length = v.numCols :=
  gridOf_row_length _ _ _ (VW.grid_isSome h)

theorem VW.Inv.grid_set (c r : Nat) (x : α) :
    ((v.grid buf).mapIdx fun r' ρ => if r' = r then ρ.set c x else ρ)
      = gridOf v.numCols v.numRows fun c' r' => (if (c', r') = (c, r) then some x else none).or buf[v.pos c' r']? := by
  rw [mapIdx_set_eq_gridOf _ _ h.grid_rows, VW.grid_length]
  apply gridOf_congr
  intro c' r' hc' hr'
  split
  · rfl
  · exact h.gcell_grid hc' hr'

theorem VW.Inv.grid_flatten_length : (v.grid buf).flatten.length = v.numCols * v.numRows := by
  rw [flatten_length_uniform v.numCols _ (h.grid_rows), VW.grid_length, Nat.mul_comm]

theorem VW.Inv.grid_flatten_getElem? {c r : Nat} (hc : c < v.numCols) (hr : r < v.numRows) :
    (v.grid buf).flatten[r * v.numCols + c]? = buf[v.pos c r]? := by
  rw [getElem?_flatten_uniform v.numCols _ (h.grid_rows) r c hc]
  exact h.gcell_grid hc hr

/-- `TooDee::from(view)` (`Vec::with_capacity(C * R)`, then one `extend_from_slice` per row): the window's grid, flattened -/
theorem VW.Inv.toOwned_ok (m : Mode) {cap : Nat} (hcap : v.numCols * v.numRows ≤ cap) :
    v.toOwned m cap buf = .ok ⟨(v.grid buf).flatten, v.numRows, v.numCols⟩ := by
  have hal : allocOk cap (v.numCols * v.numRows) = true := decide_eq_true hcap
  -- a row is copied out as the slice `[pos 0 r, +numCols)`: cell by cell, the grid's row
  simp only [VW.toOwned, umul_ok m h.area_word, VW.rows_ok m h.stride, Rows.collect_all h.rows_cursor.1, h.rows_cursor.2,
    hal, ok_bind, pure_eq, List.map_map, Function.comp_def, take_drop_eq_filterMap, Bool.not_true,
    Bool.false_eq_true, if_false]
  rfl

end window

end Toodee
