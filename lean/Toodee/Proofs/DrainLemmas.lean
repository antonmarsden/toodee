import Toodee.Proofs.RemoveLemmas
/-
  The lifetime of a drain.  A step of either drain, from either end, is a step (`Seq.pick`, SeqLemmas) of the ideal sequence over what the drain
  still holds (the row's items, or the positions the column cursor stands for), so a run along a word is `Seq.ends` (C07, C12).
  `DrainRow.run_drop_of_removeRow` / `DrainCol.run_drop_of_removeCol`: a whole lifetime from the removal to the drop, in cells.
  Then the two other ways a column drain ends: `Drop` as written, with an element destructor that may panic (C11), and
  `mem::forget` (C12).
-/
namespace Toodee
variable {α : Type}

theorem DrainRow.step_eq (d : DrainRow α) (b : Bool) :
    (if b then d.next else d.nextBack) = ((Seq.pick b d.items).1, { d with items := (Seq.pick b d.items).2 }) := by
  obtain ⟨items, pre, tail, lr, lc, fr, fc⟩ := d
  cases b
  · rcases List.eq_nil_or_concat items with rfl | ⟨xs, x, rfl⟩
    · rfl
    · simp [DrainRow.nextBack, Seq.pick, Seq.nextBack]
  · cases items <;> rfl

theorem DrainRow.run_eq (w : List Bool) (d : DrainRow α) :
    d.run w = ((Seq.ends d.items w).1, { d with items := (Seq.ends d.items w).2 }) := by
  induction w generalizing d with
  | nil => rfl
  | cons b w ih => simp only [DrainRow.run, DrainRow.step_eq, ih, Seq.ends_cons]

/-- `DrainCol::next` / `next_back` around the cursor's step: if that yielded `x` (a position inside the buffer, or nothing) and
    left `it`, the drain yields the cell at `x`, records `x` as moved out and goes on with `it` -/
theorem DrainCol.step_of_iter (m : Mode) (d : DrainCol α) (x : Option Nat) (it : Col) (hx : ∀ p, x = some p → p < d.buf.length) :
    (d.iter.next = .ok (x, it) →
      d.next = .ok (x.bind (d.buf[·]?), { d with iter := it, taken := x.toList ++ d.taken })) ∧
    (d.iter.nextBack m = .ok (x, it) →
      d.nextBack m = .ok (x.bind (d.buf[·]?), { d with iter := it, taken := x.toList ++ d.taken })) := by
  cases x with
  | none => exact ⟨fun h => by rw [DrainCol.next, h]; rfl, fun h => by rw [DrainCol.nextBack, h]; rfl⟩
  | some p =>
    have hp := hx p rfl
    have hr := readCell_ok d.buf p hp
    rw [show (some p).bind (d.buf[·]?) = some d.buf[p] from List.getElem?_eq_getElem hp]
    exact ⟨fun h => by rw [DrainCol.next, h, ok_bind]; simp only [hr, ok_bind]; rfl,
      fun h => by rw [DrainCol.nextBack, h, ok_bind]; simp only [hr, ok_bind]; rfl⟩

/-- One step of a column drain from either end, on which everything below rests: the cursor stays well-formed with one position
    fewer, stands for what `Seq.pick` leaves of its positions, and the drain yields the cell at the position `Seq.pick` yields and
    records that position in `taken`; no other field changes. -/
theorem DrainCol.step_spec (m : Mode) (d : DrainCol α) (k : Nat) (hwf : d.iter.WF k d.buf.length) (b : Bool) :
    ∃ it', it'.WF (k - 1) d.buf.length ∧ it'.abs (k - 1) = (Seq.pick b (d.iter.abs k)).2 ∧
      (if b then d.next else d.nextBack m) =
        .ok ((Seq.pick b (d.iter.abs k)).1.bind (d.buf[·]?),
          { d with iter := it', taken := (Seq.pick b (d.iter.abs k)).1.toList ++ d.taken }) := by
  have hin := fun p hp => hwf.abs_inside p ((Seq.pick_mem b (d.iter.abs k)).1 p hp)
  cases b
  · obtain ⟨it', hn, hwf', habs⟩ := Col.nextBack_spec hwf m
    exact ⟨it', hwf', habs, (DrainCol.step_of_iter m d _ it' hin).2 hn⟩
  · obtain ⟨it', hn, hwf', habs⟩ := Col.next_spec hwf
    exact ⟨it', hwf', habs, (DrainCol.step_of_iter m d _ it' hin).1 hn⟩

/-- `DrainCol.run`'s `let (x, d') ← if b then … else …` elaborates with a join point, so after unfolding `run` a fact about
    `if b then d.next else d.nextBack m` does not rewrite; hence the equation with explicit `>>=` -/
theorem DrainCol.run_cons (m : Mode) (d : DrainCol α) (b : Bool) (w : List Bool) :
    d.run m (b :: w) = ((if b then d.next else d.nextBack m) >>= fun r =>
      DrainCol.run m r.2 w >>= fun s => pure (r.1.toList ++ s.1, s.2)) := by
  rw [DrainCol.run]
  cases b <;> rfl

/-- The invariant along `run`: the cursor stays well-formed and stands for what the ideal sequence over its positions leaves;
    the yielded items are the cells at the yielded positions; `taken` collects the yielded positions; nothing else changes. -/
theorem DrainCol.run_spec (m : Mode) (w : List Bool) (d : DrainCol α) (k : Nat) (hwf : d.iter.WF k d.buf.length) :
    ∃ it' k', it'.WF k' d.buf.length ∧ it'.abs k' = (Seq.ends (d.iter.abs k) w).2 ∧
      d.run m w = .ok ((Seq.ends (d.iter.abs k) w).1.filterMap (d.buf[·]?),
        { d with iter := it', taken := (Seq.ends (d.iter.abs k) w).1.reverse ++ d.taken }) := by
  induction w generalizing d k with
  | nil => exact ⟨d.iter, k, hwf, rfl, rfl⟩
  | cons b w ih =>
    obtain ⟨it1, hwf1, habs1, hstep⟩ := DrainCol.step_spec m d k hwf b
    obtain ⟨it', k', hwf', habs', hrun⟩ := ih
      { d with iter := it1, taken := (Seq.pick b (d.iter.abs k)).1.toList ++ d.taken } (k - 1) hwf1
    simp only [habs1] at habs' hrun
    refine ⟨it', k', hwf', habs', ?_⟩
    rw [DrainCol.run_cons, hstep, ok_bind, hrun, ok_bind, Seq.ends_cons, List.filterMap_append, toList_filterMap,
      List.reverse_append, List.append_assoc]
    -- left: `x.toList.reverse = x.toList` for the option `x` the step yielded
    cases (Seq.pick b (d.iter.abs k)).1 <;> rfl

/-- the whole lifetime of a row drain: `remove_row(i)`, any consumption `w` from either end, then drop -/
theorem DrainRow.run_drop_of_removeRow {t : TD α} (h : t.Inv) (m : Mode) {i : Nat} (hi : i < t.numRows) {d : DrainRow α}
    (hd : t.removeRow m i = .ok d) (w : List Bool) :
    (d.run w).1 = (Seq.ends ((t.data.drop (i * t.numCols)).take t.numCols) w).1 ∧
      (d.run w).2.drop = (TD.ofRows t.numCols (t.grid.eraseIdx i), (Seq.ends ((t.data.drop (i * t.numCols)).take t.numCols) w).2) := by
  rw [DrainRow.run_eq, DrainRow.drop_of_removeRow h m hi hd]
  rw [h.removeRow_ok m hi] at hd
  cases hd
  exact ⟨rfl, rfl⟩

/-- the whole lifetime of a column drain, in cells: `remove_col(i)`, any consumption `w` from either end, then drop -/
theorem DrainCol.run_drop_of_removeCol {t : TD α} (h : t.Inv) (m : Mode) {i : Nat} (hi : i < t.numCols) {d : DrainCol α}
    (hd : t.removeCol m i = .ok d) (w : List Bool) :
    ∃ d', d.run m w = .ok ((Seq.ends ((List.range t.numRows).filterMap fun r => t.data[t.pos i r]?) w).1, d') ∧
      d'.drop m = .ok (TD.ofRows (t.numCols - 1) (t.grid.map fun ρ => ρ.eraseIdx i),
        (Seq.ends ((List.range t.numRows).filterMap fun r => t.data[t.pos i r]?) w).2) := by
  rw [h.removeCol_ok m hi] at hd
  cases hd
  obtain ⟨hwf, habs⟩ := h.col_cursor hi
  obtain ⟨it', k', hwf', habs', hrun⟩ := DrainCol.run_spec m w ⟨_, i, t.numCols, t.numRows, t.data, [], 0, 0, 0⟩ t.numRows hwf
  -- the column's cells are the cells at the column's positions, all of which are inside the buffer
  have hends := Seq.ends_filterMap (t.data[·]?) w ((List.range t.numRows).map fun r => t.pos i r) fun p hp => by
    simp [hwf.abs_inside p (habs ▸ hp)]
  rw [List.filterMap_map] at hends
  rw [habs] at habs' hrun
  change Seq.ends ((List.range t.numRows).filterMap fun r => t.data[t.pos i r]?) w = _ at hends
  rw [hends, ← habs']
  exact ⟨_, hrun, DrainCol.drop_ok h m hi ⟨it', i, t.numCols, t.numRows, t.data, _, 0, 0, 0⟩ rfl rfl rfl rfl k' hwf'⟩

/-- `Drop for DrainCol` as written (`while let Some(item) = self.next() { … }  DropGuard(self)`), when the destructor of the `j`-th
    remaining element panics: whenever the guard runs it finds a drain that differs from `d` only in cursor and `taken`, and
    `hdrop` says that its `drop` leaves the array `T` whatever those are; so every remaining element is dropped, the array is `T`,
    and the panic fires iff `j` is among the `k` left -/
theorem DrainCol.dropLoop_ok (m : Mode) {T : TD α} (fuel k : Nat) (d : DrainCol α) (j : Option Nat)
    (acc : List α) (hwf : d.iter.WF k d.buf.length) (hf : k < fuel)
    (hdrop : ∀ it' k' tk, it'.WF k' d.buf.length →
      ({ d with iter := it', taken := tk } : DrainCol α).drop m = .ok (T, (it'.abs k').filterMap (d.buf[·]?))) :
    d.dropLoop m fuel j acc = .ok ((T, acc ++ (d.iter.abs k).filterMap (d.buf[·]?)), j.any (· < k)) := by
  induction fuel generalizing k d j acc with
  | zero => exact absurd hf (Nat.not_lt_zero k)
  | succ f ih =>
    obtain ⟨it', hwf', habs', hnext⟩ := DrainCol.step_spec m d k hwf true
    have hd' := hdrop it' (k - 1) ((Seq.pick true (d.iter.abs k)).1.toList ++ d.taken) hwf'
    have hlt := hwf.abs_inside
    have hlen : (d.iter.abs k).length = k := Col.abs_length _ _
    rw [DrainCol.dropLoop, show d.next = _ from hnext, ok_bind]
    rw [habs'] at hd'
    -- with `k` written as the length of the list `L` of positions left, one `cases L` decides the cursor's step, whether `j < k`,
    -- and what is left
    generalize d.iter.abs k = L at hd' hlt hlen habs' ⊢
    subst hlen
    cases L with
    | nil =>
      simp only [Seq.pick, if_true, Seq.next, List.head?_nil, List.tail_nil, Option.bind_none] at hd' ⊢
      simp only [hd', ok_bind, pure_eq]
      cases j <;> rfl
    | cons p0 L' =>
      have hp0 : p0 < d.buf.length := hlt p0 (by simp)
      have hget : d.buf[p0]? = some d.buf[p0] := List.getElem?_eq_getElem hp0
      simp only [Seq.pick, if_true, Seq.next, List.head?_cons, Option.bind_some, hget, List.tail_cons] at hd' habs' ⊢
      rw [List.filterMap_cons_some hget]
      by_cases hj : j = some 0
      · subst hj
        rw [if_pos rfl, hd']
        simp only [ok_bind, pure_eq, List.append_assoc, Option.any_some, List.length_cons, Nat.zero_lt_succ, decide_true]
        rfl
      · rw [if_neg hj, ih _ { d with iter := it', taken := (some p0).toList ++ d.taken } _ _ hwf'
          (Nat.lt_of_succ_lt_succ hf) hdrop, habs', List.append_assoc]
        rcases j with _ | _ | n
        · rfl
        · exact absurd rfl hj
        · simp only [Option.map_some, Option.any_some, List.length_cons, Nat.add_sub_cancel, Nat.add_lt_add_iff_right]
          rfl

/-- a column drain that has moved out the cells at the positions `Y` (recorded, in any order, in `taken`) and is then leaked:
    the yielded items and the leaked elements are together the buffer.  Stated on the list that `DrainCol.leak_of_zero` shows the
    leaked elements to be, so that it applies after that rewrite whatever the other fields of the drain are. -/
theorem DrainCol.leak_conserves (buf : List α) (Y taken : List Nat) (hp : taken.Perm Y) (hndY : Y.Nodup)
    (hinY : ∀ p ∈ Y, p < buf.length) :
    (Y.filterMap (buf[·]?) ++ (buf.zipIdx.filter fun xi => !taken.contains xi.2).map (·.1)).Perm buf := by
  have hnd : taken.Nodup := hp.nodup_iff.2 hndY
  have hin : ∀ p ∈ taken, p < buf.length := fun p h => hinY p (hp.mem_iff.1 h)
  refine List.perm_append_comm.trans ((List.Perm.append_left _ (hp.filterMap _).symm).trans ?_)
  -- the cells at the taken positions, in buffer order
  let F := buf.zipIdx.filter fun xi => taken.contains xi.2
  have hidx : F.map (·.2) = (List.range buf.length).filter (taken.contains ·) := by
    rw [List.range_eq_range', ← List.zipIdx_map_snd 0 buf, List.filter_map]
    rfl
  have hperm : (F.map (·.2)).Perm taken := by
    rw [hidx]
    apply (List.perm_ext_iff_of_nodup (List.nodup_range.filter _) hnd).2
    intro p
    simp only [List.mem_filter, List.mem_range, List.contains_iff_mem]
    exact ⟨fun hp => hp.2, fun hp => ⟨hin p hp, hp⟩⟩
  have hval : F.map (·.1) = (F.map (·.2)).filterMap (buf[·]?) := by
    rw [List.filterMap_map, ← List.filterMap_eq_map]
    exact filterMap_congr_mem _ fun xi hxi => (List.mem_zipIdx_iff_getElem?.1 (List.mem_filter.1 hxi).1).symm
  have h2 := (List.perm_append_comm.trans
    (List.filter_append_perm (fun xi : α × Nat => taken.contains xi.2) buf.zipIdx)).map (·.1)
  rw [List.map_append, hval, show buf.zipIdx.map (·.1) = buf from List.zipIdx_map_fst 0 buf] at h2
  exact (List.Perm.append_left _ (hperm.filterMap _).symm).trans h2

/-- leaking a column drain whose borrowed array shows `(0,0)` with an empty `Vec` -/
theorem DrainCol.leak_of_zero (d : DrainCol α) (h0 : d.tdLen = 0) (hr : d.tdRows = 0) (hc : d.tdCols = 0) :
    d.leak = (⟨[], 0, 0⟩, (d.buf.zipIdx.filter fun xi => !d.taken.contains xi.2).map (·.1)) := by
  unfold DrainCol.leak
  rw [h0, hr, hc]
  simp

end Toodee
