import Toodee.Spec.Cells
/-
  The geometry of arrays and views: row-major / strided index arithmetic, what `VW.Inv` and `TD.Inv` say about sizes and positions
  (a cell lies inside the buffer, dimensions fit a `usize`, positions are injective), an owned array as the view `t.asView`, the
  shape check of the constructors (`shapeOk`, the acceptance condition in the statements of C20 and C03, is defined here) with
  what `TD.new` / `init` / `from_vec` and the two slice constructors of a view return, and what the row and cell accessors return
  under the invariant.  The windows `view` / `view_mut` cut out are in Proofs/ViewLemmas.lean.

  Suffixes, here and in every proof module: `_eq` is the equation for every argument (`= if <accepted> then .ok … else .error .panic`)
  or a plain equation between two terms of the model, `_ok` is `= .ok …` under accepting hypotheses, `_panic` is `= .error .panic`
  under rejecting hypotheses (written with `≤` / `<`, not negated), and `_spec` is `∃ result, op = .ok result ∧ what it is` (for a
  cursor operation: what it returns and leaves behind in terms of the ideal sequence `abs`; no `∃` where no cursor is left).
-/
namespace Toodee
variable {α : Type}

theorem rowMajor_row_end_le {C R row : Nat} (hr : row < R) : row * C + C ≤ C * R := by
  have h := Nat.mul_le_mul_right C (Nat.succ_le_of_lt hr)
  rw [Nat.succ_mul, Nat.mul_comm R C] at h
  exact h

theorem rowMajor_cell_lt {C R col row : Nat} (hc : col < C) (hr : row < R) : row * C + col < C * R := by
  have := rowMajor_row_end_le (C := C) hr
  omega

theorem rowMajor_cell_of_lt {C R i : Nat} (hi : i < C * R) :
    i % C < C ∧ i / C < R ∧ i / C * C + i % C = i := by
  have hC : 0 < C := by
    rcases Nat.eq_zero_or_pos C with h0 | h0
    · rw [h0, Nat.zero_mul] at hi; omega
    · exact h0
  refine ⟨Nat.mod_lt _ hC, (Nat.div_lt_iff_lt_mul hC).2 (by rw [Nat.mul_comm]; exact hi), ?_⟩
  rw [Nat.mul_comm]; exact Nat.div_add_mod i C

theorem pred_mul_add {R : Nat} (S : Nat) (hR : 0 < R) : (R - 1) * S + S = R * S := by
  obtain ⟨k, rfl⟩ : ∃ k, R = k + 1 := ⟨R - 1, by omega⟩
  simp [Nat.succ_mul]

theorem strided_inj {S c1 r1 c2 r2 : Nat} (h1 : c1 < S) (h2 : c2 < S)
    (he : r1 * S + c1 = r2 * S + c2) : c1 = c2 ∧ r1 = r2 := by
  have hS : 0 < S := by omega
  have hr := congrArg (· / S) he
  simp only [Nat.mul_comm _ S, Nat.mul_add_div hS, Nat.div_eq_of_lt h1, Nat.div_eq_of_lt h2, Nat.add_zero] at hr
  subst hr
  exact ⟨by omega, rfl⟩

/-! ### what the invariants say about sizes and positions -/

theorem VW.pos_zero_add (v : VW) (c r : Nat) : v.pos 0 r + c = v.pos c r := by simp [VW.pos]

theorem VW.pos_add (v : VW) (c k r : Nat) : v.pos (c + k) r = v.pos c r + k := (Nat.add_assoc _ _ _).symm

theorem VW.Inv.stride_pos {v : VW} {n : Nat} (h : v.Inv n) {c : Nat} (hc : c < v.numCols) : 0 < v.stride :=
  Nat.lt_of_lt_of_le (Nat.zero_lt_of_lt hc) h.stride

theorem VW.Inv.cols_pos_of_ne_zero {v : VW} {n : Nat} (h : v.Inv n) (hr : v.numRows ≠ 0) : 0 < v.numCols :=
  Nat.pos_of_ne_zero fun hc => hr (h.zero.1 hc)

theorem VW.Inv.cols_pos {v : VW} {n : Nat} (h : v.Inv n) {r : Nat} (hr : r < v.numRows) : 0 < v.numCols :=
  h.cols_pos_of_ne_zero (Nat.ne_zero_of_lt hr)

theorem VW.Inv.rows_pos {v : VW} {n : Nat} (h : v.Inv n) {c : Nat} (hc : c < v.numCols) : 0 < v.numRows :=
  Nat.pos_of_ne_zero fun hr => Nat.ne_zero_of_lt hc (h.zero.2 hr)

theorem VW.Inv.row_end_le {v : VW} {n : Nat} (h : v.Inv n) {r : Nat} (hr : r < v.numRows) :
    r * v.stride + v.numCols ≤ v.data.len := by
  have hl := h.len
  rw [if_neg (by omega)] at hl
  have : r * v.stride ≤ (v.numRows - 1) * v.stride := Nat.mul_le_mul_right _ (Nat.le_sub_one_of_lt hr)
  omega

theorem VW.Inv.cols_word {v : VW} {n : Nat} (h : v.Inv n) : v.numCols < WORD :=
  Nat.lt_of_le_of_lt h.stride h.stride_word

/-- with at least two rows, twice the row length fits a `usize`: in `translate_with_wrap` (src/translate.rs:109) `mid += col_mid` with
    `mid, col_mid < num_cols` therefore cannot overflow -/
theorem VW.Inv.two_cols_word {v : VW} {n : Nat} (h : v.Inv n) (hr : 2 ≤ v.numRows) : 2 * v.numCols < WORD := by
  have h0 := h.row_end_le (r := 1) hr
  have h1 := h.inside
  have h2 := h.stride
  have h3 := h.word
  omega

theorem VW.Inv.area_le {v : VW} {n : Nat} (h : v.Inv n) : v.numCols * v.numRows ≤ v.data.len := by
  by_cases hR : v.numRows = 0
  · simp [hR]
  · have hl := h.len
    rw [if_neg hR] at hl
    have h1 := Nat.mul_le_mul_left (v.numRows - 1) h.stride
    have h2 := pred_mul_add v.numCols (Nat.pos_of_ne_zero hR)
    rw [Nat.mul_comm v.numCols]
    omega

theorem VW.Inv.area_le_buf {v : VW} {n : Nat} (h : v.Inv n) : v.numCols * v.numRows ≤ n :=
  Nat.le_trans h.area_le (Nat.le_trans (Nat.le_add_left _ _) h.inside)

theorem VW.Inv.area_word {v : VW} {n : Nat} (h : v.Inv n) : v.numCols * v.numRows < WORD :=
  Nat.lt_of_le_of_lt h.area_le_buf h.word

theorem VW.Inv.rows_le {v : VW} {n : Nat} (h : v.Inv n) : v.numRows ≤ v.data.len := by
  by_cases hR : v.numRows = 0
  · exact hR ▸ Nat.zero_le _
  · exact Nat.le_trans (Nat.le_mul_of_pos_left _ (h.cols_pos_of_ne_zero hR)) h.area_le

theorem VW.Inv.rows_word {v : VW} {n : Nat} (h : v.Inv n) : v.numRows < WORD :=
  Nat.lt_of_le_of_lt (Nat.le_trans h.rows_le (Nat.le_trans (Nat.le_add_left _ _) h.inside)) h.word

theorem VW.Inv.seg_inside {v : VW} {n : Nat} (h : v.Inv n) {c w r : Nat} (hr : r < v.numRows)
    (hc : c + w ≤ v.numCols) : v.pos c r + w ≤ n := by
  have := h.row_end_le hr
  have := h.inside
  unfold VW.pos
  omega

theorem VW.Inv.pos_lt {v : VW} {n : Nat} (h : v.Inv n) {c r : Nat} (hc : c < v.numCols) (hr : r < v.numRows) :
    v.pos c r < n :=
  h.seg_inside (w := 1) hr hc

theorem VW.Inv.cell_isSome {v : VW} {buf : List α} (h : v.Inv buf.length) {c r : Nat} (hc : c < v.numCols) (hr : r < v.numRows) :
    (buf[v.pos c r]?).isSome := by
  rw [List.getElem?_eq_getElem (h.pos_lt hc hr)]
  rfl

theorem VW.Inv.rowWin_inside {v : VW} {n : Nat} (h : v.Inv n) {r : Nat} (hr : r < v.numRows) :
    (v.rowWin r).off + (v.rowWin r).len ≤ n :=
  h.seg_inside (c := 0) hr (Nat.le_of_eq (Nat.zero_add _))

theorem VW.Inv.pos_inj {v : VW} {n : Nat} (h : v.Inv n) {c r c' r' : Nat} (hc : c < v.numCols) (hc' : c' < v.numCols)
    (he : v.pos c r = v.pos c' r') : c = c' ∧ r = r' := by
  apply strided_inj (Nat.lt_of_lt_of_le hc h.stride) (Nat.lt_of_lt_of_le hc' h.stride)
  simp only [VW.pos] at he
  omega

/-- a view as wide as its stride: `c × r` cells in one block -/
theorem VW.Inv.full_width {off c r n : Nat} (hz : c = 0 ↔ r = 0) (hin : off + c * r ≤ n) (hw : n < WORD) :
    (⟨⟨off, c * r⟩, c, r, c⟩ : VW).Inv n := by
  refine ⟨Nat.le_refl _, hz, ?_, hin, hw, ?_⟩
  · show c * r = if r = 0 then 0 else (r - 1) * c + c
    by_cases hr : r = 0
    · rw [if_pos hr, hr, Nat.mul_zero]
    · rw [if_neg hr, pred_mul_add _ (Nat.pos_of_ne_zero hr), Nat.mul_comm]
  · show c < WORD
    by_cases hr : r = 0
    · rw [hz.2 hr]; exact Nat.lt_of_le_of_lt (Nat.zero_le _) hw
    · exact Nat.lt_of_le_of_lt (Nat.le_trans (Nat.le_mul_of_pos_right _ (Nat.pos_of_ne_zero hr))
        (Nat.le_trans (Nat.le_add_left _ _) hin)) hw

/-! ### an owned array is the view `t.asView` of its own buffer -/

theorem TD.asView_pos (t : TD α) (c r : Nat) : t.asView.pos c r = t.pos c r := by
  simp [TD.asView, TD.win, VW.pos, TD.pos]

theorem TD.Inv.asView {t : TD α} (h : t.Inv) : t.asView.Inv t.data.length := by
  unfold TD.asView TD.win
  rw [h.len]
  exact VW.Inv.full_width h.zero (Nat.le_of_eq (Nat.zero_add _)) (h.len ▸ h.word)

theorem TD.Inv.with_data {t : TD α} (h : t.Inv) (d : List α) (hd : d.length = t.data.length) :
    ({ t with data := d } : TD α).Inv :=
  ⟨by show d.length = _; rw [hd]; exact h.len, h.zero, by show d.length < WORD; rw [hd]; exact h.word⟩

theorem TD.Inv.nil : (⟨[], 0, 0⟩ : TD α).Inv :=
  ⟨rfl, Iff.rfl, Nat.zero_lt_succ _⟩

theorem TD.Inv.row_start_le {t : TD α} (h : t.Inv) {i : Nat} (hi : i ≤ t.numRows) : i * t.numCols ≤ t.data.length := by
  rw [h.len, Nat.mul_comm t.numCols]
  exact Nat.mul_le_mul_right _ hi

theorem TD.Inv.cols_word {t : TD α} (h : t.Inv) : t.numCols < WORD := h.asView.cols_word

theorem TD.Inv.rows_word {t : TD α} (h : t.Inv) : t.numRows < WORD := h.asView.rows_word

theorem TD.Inv.cols_pos {t : TD α} (h : t.Inv) {r : Nat} (hr : r < t.numRows) : 0 < t.numCols :=
  h.asView.cols_pos hr

theorem TD.Inv.rows_pos {t : TD α} (h : t.Inv) {c : Nat} (hc : c < t.numCols) : 0 < t.numRows :=
  h.asView.rows_pos hc

/-! ### constructors: the shape check -/

/-- the acceptance condition shared by all constructors -/
def shapeOk (c r : Nat) : Prop := (c = 0 ↔ r = 0) ∧ c * r < WORD

instance (c r : Nat) : Decidable (shapeOk c r) := by unfold shapeOk; infer_instance

theorem zeroRuleOk_iff (c r : Nat) : TD.zeroRuleOk c r = true ↔ (c = 0 ↔ r = 0) := by
  simp [TD.zeroRuleOk]; omega

/-- both dimensions fit a `usize` when their product does and the zero rule holds -/
theorem shapeOk.lt_word {c r : Nat} (h : shapeOk c r) : c < WORD ∧ r < WORD := by
  obtain ⟨hz, hw⟩ := h
  by_cases hc : c = 0
  · rw [hc, hz.1 hc]
    exact ⟨by decide, by decide⟩
  · exact ⟨Nat.lt_of_le_of_lt (Nat.le_mul_of_pos_right c (Nat.pos_of_ne_zero fun hr => hc (hz.2 hr))) hw,
      Nat.lt_of_le_of_lt (Nat.le_mul_of_pos_left r (Nat.pos_of_ne_zero hc)) hw⟩

theorem TD.Inv.of_shape {c r : Nat} {data : List α} (hs : shapeOk c r) (hl : data.length = c * r) :
    (⟨data, r, c⟩ : TD α).Inv :=
  ⟨hl, hs.1, hl ▸ hs.2⟩

/-- the check every constructor starts with: the zero rule, then the checked product -/
theorem shape_check {β : Type} (c r : Nat) (k : Nat → Res β) :
    (if !TD.zeroRuleOk c r then throw .panic
      else match cmul c r with
        | none => throw .panic
        | some n => k n) = if shapeOk c r then k (c * r) else .error .panic := by
  by_cases hs : shapeOk c r
  · rw [if_pos hs, (zeroRuleOk_iff c r).2 hs.1, cmul_some hs.2]
    rfl
  · rw [if_neg hs]
    by_cases hz : TD.zeroRuleOk c r = true
    · rw [hz, cmul_none (Nat.le_of_not_lt fun hw => hs ⟨(zeroRuleOk_iff c r).1 hz, hw⟩)]
      rfl
    · rw [Bool.not_eq_true] at hz
      rw [hz]
      rfl

theorem TD.new_eq (cap c r : Nat) (d : α) :
    TD.new cap c r d =
      if shapeOk c r ∧ c * r ≤ cap then .ok ⟨List.replicate (c * r) d, r, c⟩ else .error .panic := by
  unfold TD.new
  refine (shape_check c r _).trans ?_
  simp only [allocOk, Bool.not_eq_true', decide_eq_false_iff_not, ite_not]
  exact ite_ite_same_else ..

theorem TD.init_eq_new (cap c r : Nat) (v : α) : TD.init cap c r v = TD.new cap c r v := by
  unfold TD.init TD.new cmul
  rw [Nat.mul_comm r c]

theorem TD.fromVec_eq (c r : Nat) (v : List α) :
    TD.fromVec c r v = if shapeOk c r ∧ c * r = v.length then .ok ⟨v, r, c⟩ else .error .panic := by
  unfold TD.fromVec
  exact (shape_check c r _).trans (ite_ite_same_else ..)

theorem VW.newShared_eq (c r : Nat) (slice : Win) :
    VW.newShared c r slice =
      if shapeOk c r ∧ c * r ≤ slice.len then .ok ⟨⟨slice.off, c * r⟩, c, r, c⟩ else .error .panic := by
  unfold VW.newShared
  refine (shape_check c r _).trans (Eq.trans ?_ (ite_ite_same_else ..))
  by_cases hl : c * r ≤ slice.len
  · rw [if_neg (not_not_intro hl), Win.indexTo_ok hl, if_pos hl]; rfl
  · rw [if_pos hl, if_neg hl]; rfl

/-- `TooDeeViewMut::new` slices unchecked (`get_unchecked_mut(..size)`), but only after `size ≤ len` was checked: never `ub` -/
theorem VW.newMut_eq_newShared (c r : Nat) (slice : Win) : VW.newMut c r slice = VW.newShared c r slice := by
  unfold VW.newMut VW.newShared
  refine (shape_check c r _).trans (Eq.trans ?_ (shape_check c r _).symm)
  by_cases hl : c * r ≤ slice.len
  · rw [Win.getTo_ok hl, Win.indexTo_ok hl]
  · rw [if_pos hl, if_pos hl]

theorem VW.newMut_eq (c r : Nat) (slice : Win) :
    VW.newMut c r slice =
      if shapeOk c r ∧ c * r ≤ slice.len then .ok ⟨⟨slice.off, c * r⟩, c, r, c⟩ else .error .panic :=
  (VW.newMut_eq_newShared c r slice).trans (VW.newShared_eq c r slice)

/-! ### accessors
  A checked accessor is its bounds test followed by the unchecked one, so the index arithmetic is done twice only:
  in `getUncheckedRow` and `getUnchecked`. -/

namespace VW

/-- `Index<usize>` is the bounds test followed by `get_unchecked_row` -/
theorem indexRow_guard (m : Mode) (v : VW) (r : Nat) :
    v.indexRow m r = if r < v.numRows then v.getUncheckedRow m r else .error .panic := by
  unfold VW.indexRow VW.getUncheckedRow
  exact guard_bind _ _ _

/-- `Index<Coordinate>` is the two bounds tests followed by `get_unchecked` -/
theorem indexCoord_guard (m : Mode) (v : VW) (c r : Nat) :
    v.indexCoord m c r = if c < v.numCols ∧ r < v.numRows then v.getUnchecked m c r else .error .panic := by
  unfold VW.indexCoord VW.getUnchecked
  rw [guard_bind, guard_bind, ite_ite_same_else]
  exact ite_congr (propext And.comm) (fun _ => rfl) (fun _ => rfl)

theorem rowWin_index (v : VW) (c r : Nat) :
    (v.rowWin r).index c = if c < v.numCols then .ok (v.pos c r) else .error .panic := by
  by_cases hc : c < v.numCols
  · rw [if_pos hc, Win.index_ok hc]; rfl
  · rw [if_neg hc, Win.index_panic (Nat.not_lt.1 hc)]

variable {v : VW} {n : Nat}

theorem Inv.getUncheckedRow_ok (h : v.Inv n) (m : Mode) {r : Nat} (hr : r < v.numRows) :
    v.getUncheckedRow m r = .ok (v.rowWin r) := by
  have h1 := h.row_end_le hr
  have h2 := Nat.lt_of_le_of_lt h.inside h.word
  unfold VW.getUncheckedRow
  rw [umul_ok m (by omega), ok_bind, uadd_ok m (by omega), ok_bind, Win.getRange_add h1]
  rfl

theorem Inv.getUnchecked_ok (h : v.Inv n) (m : Mode) {c r : Nat} (hc : c < v.numCols) (hr : r < v.numRows) :
    v.getUnchecked m c r = .ok (v.pos c r) := by
  have h1 := h.row_end_le hr
  have h2 := Nat.lt_of_le_of_lt h.inside h.word
  unfold VW.getUnchecked
  rw [umul_ok m (by omega), ok_bind, uadd_ok m (by omega), ok_bind, Win.getIdx_ok (by omega), VW.pos,
    Nat.add_assoc]

theorem Inv.indexRow_eq (h : v.Inv n) (m : Mode) (r : Nat) :
    v.indexRow m r = if r < v.numRows then .ok (v.rowWin r) else .error .panic := by
  rw [indexRow_guard]
  exact ite_congr rfl (fun hr => h.getUncheckedRow_ok m hr) (fun _ => rfl)

theorem Inv.indexCoord_eq (h : v.Inv n) (m : Mode) (c r : Nat) :
    v.indexCoord m c r = if c < v.numCols ∧ r < v.numRows then .ok (v.pos c r) else .error .panic := by
  rw [indexCoord_guard]
  exact ite_congr rfl (fun hv => h.getUnchecked_ok m hv.1 hv.2) (fun _ => rfl)

theorem Inv.indexRow_ok (h : v.Inv n) (m : Mode) {r : Nat} (hr : r < v.numRows) : v.indexRow m r = .ok (v.rowWin r) :=
  (h.indexRow_eq m r).trans (if_pos hr)

theorem Inv.indexCoord_ok (h : v.Inv n) (m : Mode) {c r : Nat} (hc : c < v.numCols) (hr : r < v.numRows) :
    v.indexCoord m c r = .ok (v.pos c r) :=
  (h.indexCoord_eq m c r).trans (if_pos ⟨hc, hr⟩)

end VW

/-! All accessors of an owned array except `col` are, by unfolding, those of `t.asView` (`TD.colParams` computes the end of the
    column from `data.len()`, `VW.colParams` from `num_rows`). -/

theorem TD.indexRow_asView (m : Mode) (t : TD α) (r : Nat) : t.indexRow m r = t.asView.indexRow m r := rfl
theorem TD.indexRowMut_asView (m : Mode) (t : TD α) (r : Nat) : t.indexRowMut m r = t.asView.indexRow m r := rfl
theorem TD.indexCoord_asView (m : Mode) (t : TD α) (c r : Nat) : t.indexCoord m c r = t.asView.indexCoord m c r := rfl
theorem TD.indexCoordMut_asView (m : Mode) (t : TD α) (c r : Nat) :
    t.indexCoordMut m c r = t.asView.indexCoord m c r := rfl
theorem TD.getUncheckedRow_asView (m : Mode) (t : TD α) (r : Nat) :
    t.getUncheckedRow m r = t.asView.getUncheckedRow m r := rfl
theorem TD.getUnchecked_asView (m : Mode) (t : TD α) (c r : Nat) :
    t.getUnchecked m c r = t.asView.getUnchecked m c r := rfl

end Toodee
