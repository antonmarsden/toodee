import Toodee.Spec.History
import Toodee.Proofs.CellsLemmas
/-
  Lemmas for C05 (the accounting law over histories): what it means for a flow to conserve elements between two buffers
  (`Flow.Conserves`, from the buffer before to the buffer after, like `BlockOk` of HistoryView and `HOp.Step` / `HOp.Run` of HistoryLemmas), the flows that conserve trivially,
  that conservation composes along a history (`.trans`), that an overwrite through a window drops exactly the cells it replaces
  (`VW.updCells_perm`), and the flow of a call that panicked (`errFlow`).  A cell bijection moves nothing in or out:
  `VW.Inv.gather_mapCells_perm` (CellsLemmas).
-/
namespace Toodee
variable {α : Type}

/-- the flow `F` accounts for every element between the buffers `a` (before) and `a'` (after): what is owned afterwards, handed to
    the caller, dropped or leaked is exactly what was owned before or supplied.  A structure with this one field rather than a
    definition, so that it is not unfolded by accident: one enters by `⟨_⟩` / `.intro` and leaves by `.perm` -/
structure Flow.Conserves (F : Flow α) (a a' : List α) : Prop where
  perm : (a' ++ F.handed ++ F.dropped ++ F.leaked).Perm (a ++ F.supplied)

/-- the constructor for a flow given by its four lists (their projections reduced) -/
theorem Flow.Conserves.intro {S H D L a a' : List α} (h : (a' ++ H ++ D ++ L).Perm (a ++ S)) :
    (⟨S, H, D, L⟩ : Flow α).Conserves a a' := ⟨h⟩

theorem Flow.conserves_of_perm {a a' : List α} (h : a'.Perm a) : ({} : Flow α).Conserves a a' :=
  .intro (by simpa using h)

/-- what a call takes and drops on the side (`x`) does not disturb the account -/
theorem Flow.Conserves.add_side {S H D L a a' : List α} (x : List α) (h : (⟨S, H, D, L⟩ : Flow α).Conserves a a') :
    (⟨S ++ x, H, D ++ x, L⟩ : Flow α).Conserves a a' := by
  have h' : (a' ++ H ++ D ++ L).Perm (a ++ S) := h.perm
  refine .intro ?_
  rw [← List.append_assoc, ← List.append_assoc]
  exact (perm_append_right_comm _ x L).trans (h'.append_right x)

/-- the side list `x` may be exchanged for another, `y`: `mflow` and `vflow` differ only in what `fill` takes and drops on the side -/
theorem Flow.Conserves.change_side {S D x a a' : List α} (y : List α)
    (h : ({ supplied := S ++ x, dropped := D ++ x } : Flow α).Conserves a a') :
    ({ supplied := S ++ y, dropped := D ++ y } : Flow α).Conserves a a' := by
  have h' : (a' ++ [] ++ (D ++ x) ++ []).Perm (a ++ (S ++ x)) := h.perm
  rw [List.append_nil, List.append_nil, ← List.append_assoc, ← List.append_assoc] at h'
  exact Flow.Conserves.add_side y (.intro (by simpa using (List.perm_append_right_iff x).1 h'))

theorem Flow.conserves_returned (a s : List α) : ({ supplied := s, dropped := s } : Flow α).Conserves a a :=
  (Flow.conserves_of_perm (List.Perm.refl a)).add_side s

theorem Flow.conserves_swapped (a a' : List α) : ({ supplied := a', dropped := a } : Flow α).Conserves a a' :=
  .intro (by simpa using List.perm_append_comm)

theorem Flow.Conserves.trans {F1 F2 : Flow α} {a0 a1 a2 : List α} (h1 : F1.Conserves a0 a1) (h2 : F2.Conserves a1 a2) :
    (F1.append F2).Conserves a0 a2 := by
  obtain ⟨S1, H1, D1, L1⟩ := F1
  obtain ⟨S2, H2, D2, L2⟩ := F2
  refine .intro ?_
  have h1' : (a1 ++ (H1 ++ D1 ++ L1)).Perm (a0 ++ S1) := by
    rw [← List.append_assoc, ← List.append_assoc]; exact h1.perm
  have h2' : (a2 ++ (H2 ++ D2 ++ L2)).Perm (a1 ++ S2) := by
    rw [← List.append_assoc, ← List.append_assoc]; exact h2.perm
  -- sort the left side into the second call's part followed by the first call's part
  have e0 : ((H1 ++ H2) ++ (D1 ++ D2) ++ (L1 ++ L2)).Perm ((H2 ++ D2 ++ L2) ++ (H1 ++ D1 ++ L1)) :=
    (((perm_shuffle H1 H2 D1 D2).append_right _).trans (perm_shuffle (H1 ++ D1) (H2 ++ D2) L1 L2)).trans
      List.perm_append_comm
  calc a2 ++ (H1 ++ H2) ++ (D1 ++ D2) ++ (L1 ++ L2)
      = a2 ++ ((H1 ++ H2) ++ (D1 ++ D2) ++ (L1 ++ L2)) := by simp only [List.append_assoc]
    List.Perm _ (a2 ++ ((H2 ++ D2 ++ L2) ++ (H1 ++ D1 ++ L1))) := e0.append_left a2
    _ = a2 ++ (H2 ++ D2 ++ L2) ++ (H1 ++ D1 ++ L1) := (List.append_assoc ..).symm
    List.Perm _ (a1 ++ S2 ++ (H1 ++ D1 ++ L1)) := h2'.append_right _
    List.Perm _ (a1 ++ (H1 ++ D1 ++ L1) ++ S2) := perm_append_right_comm _ _ _
    List.Perm _ (a0 ++ S1 ++ S2) := h1'.append_right _
    _ = a0 ++ (S1 ++ S2) := List.append_assoc ..

/-- **an overwrite through any window conserves elements**: the new buffer plus the replaced cells are the old buffer plus the
    written values -/
theorem VW.updCells_perm (v : VW) (buf : List α) (f : Nat × Nat → Option α) :
    (v.updCells buf f ++ v.overwritten buf f).Perm (buf ++ v.written buf.length f) := by
  -- position by position: at a written cell the new value and the replaced one trade places, elsewhere nothing moves
  unfold VW.updCells VW.overwritten VW.written
  rw [mapIdx_eq_filterMap_range]
  conv => rhs; lhs; rw [← range_filterMap_getElem? buf]
  apply filterMap_perm_pointwise
  intro p hp
  rw [List.getElem?_eq_getElem (List.mem_range.1 hp)]
  cases hc : v.coord? p with
  | none => exact List.Perm.refl _
  | some cr =>
    cases hf : f cr with
    | none =>
      simp only [Option.map_some, Option.bind_some, hf, Option.getD_none, Option.bind_none]
      exact List.Perm.refl _
    | some y =>
      simp only [Option.map_some, Option.bind_some, hf, Option.getD_some, Option.toList_some]
      exact List.Perm.swap _ _ _

theorem VW.updCells_conserves (v : VW) (buf : List α) (f : Nat × Nat → Option α) :
    ({ supplied := v.written buf.length f, dropped := v.overwritten buf f } : Flow α).Conserves buf (v.updCells buf f) :=
  .intro (by simpa using v.updCells_perm buf f)

theorem fl_gather_perm (t : TD α) (h : t.Inv) (g : Nat × Nat → Nat × Nat)
    (hg : ∀ c r, c < t.numCols → r < t.numRows → (g (c, r)).1 < t.numCols ∧ (g (c, r)).2 < t.numRows)
    (hinj : ∀ c r c' r', c < t.numCols → r < t.numRows → c' < t.numCols → r' < t.numRows →
      g (c, r) = g (c', r') → (c, r) = (c', r')) :
    (gather t.data (t.asView.mapCells g)).Perm t.data :=
  h.asView.gather_mapCells_perm g hg hinj

/-- the flow of an in-place call that panicked: a `set` gives back the value it was handed.  `mflow`, `vflow`, `vflowRun` and `hflow`
    (Spec/History) write this match out in their error branches; this is its name in the proofs -/
def errFlow (op : MOp α) : Flow α :=
  match op with | .set _ _ x | .setInRow _ _ x => { supplied := [x], dropped := [x] } | _ => {}

theorem errFlow_conserves (a : List α) (op : MOp α) : (errFlow op).Conserves a a ∧ (errFlow op).leaked = [] := by
  cases op <;> exact ⟨Flow.conserves_returned a _, rfl⟩

end Toodee
