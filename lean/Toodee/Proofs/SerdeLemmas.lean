import Toodee.Impl.Serde
import Toodee.Proofs.Index
/-
  The serde model (`Toodee/Impl/Serde.lean`) for C18 / C19.  The visitor loop is three independent accumulators, one per
  key, plus "unknown key: reject"; each accumulator sees only the entries that carry its key.  `visitLoop_eq_some_iff`
  says so, `deserialize_obj` adds the checks after the loop; `deserialize_eq_ok_iff` (what is accepted, exactly) and
  `deserialize_ok` (every three-entry document of a good shape, in any order: what both serialisers write) are what C19 and C18 cite.
-/
namespace Toodee
variable {α : Type}

theorem decUsize_eq_some {v : JVal} {n : Nat} : decUsize v = some n ↔ v = .num n ∧ n < WORD := by
  cases v with
  | num m =>
    rw [decUsize]
    by_cases hm : m < WORD
    · rw [if_pos hm]
      exact ⟨fun h => by cases h; exact ⟨rfl, hm⟩, fun h => by cases h.1; rfl⟩
    · rw [if_neg hm]
      exact ⟨nofun, fun h => by cases h.1; exact absurd h.2 hm⟩
  | arr xs => exact ⟨nofun, fun h => nomatch h.1⟩
  | obj kvs => exact ⟨nofun, fun h => nomatch h.1⟩
  | other => exact ⟨nofun, fun h => nomatch h.1⟩

theorem decVec_arr_enc (enc : α → JVal) (dec : JVal → Option α) (hcodec : ∀ x, dec (enc x) = some x)
    {xs : List α} : decVec dec (.arr (xs.map enc)) = some xs := by
  show (xs.map enc).mapM dec = some xs
  induction xs with
  | nil => rfl
  | cons x xs ih => simp [List.mapM_cons, hcodec, ih]

section loop
variable {dec : JVal → Option α} {v : JVal} {rest : List (String × JVal)} {nc nr : Option Nat} {d : Option (List α)}

theorem visitLoop_cols : visitLoop dec (("num_cols", v) :: rest) nc nr d =
    if nc.isSome then none else (decUsize v).bind fun n => visitLoop dec rest (some n) nr d := by
  rw [visitLoop, if_pos rfl]
  cases decUsize v <;> rfl

theorem visitLoop_rows : visitLoop dec (("num_rows", v) :: rest) nc nr d =
    if nr.isSome then none else (decUsize v).bind fun n => visitLoop dec rest nc (some n) d := by
  rw [visitLoop, if_neg (by simp), if_pos rfl]
  cases decUsize v <;> rfl

theorem visitLoop_data : visitLoop dec (("data", v) :: rest) nc nr d =
    (decVec dec v).bind fun xs => visitLoop dec rest nc nr (some xs) := by
  rw [visitLoop, if_neg (by simp), if_neg (by simp), if_pos rfl]
  cases decVec dec v <;> rfl

theorem visitLoop_unknown {k : String} (h1 : k ≠ "num_cols") (h2 : k ≠ "num_rows") (h3 : k ≠ "data") :
    visitLoop dec ((k, v) :: rest) nc nr d = none := by
  rw [visitLoop, if_neg h1, if_neg h2, if_neg h3]

end loop

/-- a step that wants an empty accumulator `a` and a decodable value `o` -/
theorem ite_isSome_bind_eq_some {β γ δ : Type} (a : Option γ) (o : Option δ) (f : δ → Option β) (b : β) :
    (if a.isSome then none else o.bind f) = some b ↔ a = none ∧ ∃ n, o = some n ∧ f n = some b := by
  cases a <;> simp [Option.bind_eq_some_iff]

/-- What the loop does with one dimension key, read off the entries `l` that carry it: there is none and the accumulator
    stays, or there is one, a number literal that fits a `usize`, and the accumulator was empty. -/
def DimRun (K : String) (l : List (String × JVal)) (a0 a : Option Nat) : Prop :=
  (l = [] ∧ a = a0) ∨ (a0 = none ∧ ∃ n, n < WORD ∧ l = [(K, .num n)] ∧ a = some n)

theorem DimRun.cons (K : String) (v : JVal) (l : List (String × JVal)) (a0 a : Option Nat) :
    DimRun K ((K, v) :: l) a0 a ↔ a0 = none ∧ ∃ n, decUsize v = some n ∧ DimRun K l (some n) a := by
  constructor
  · rintro (⟨h, _⟩ | ⟨h0, n, hn, hl, ha⟩)
    · cases h
    · cases hl
      exact ⟨h0, n, decUsize_eq_some.2 ⟨rfl, hn⟩, .inl ⟨rfl, ha⟩⟩
  · rintro ⟨h0, n, hn, ⟨hl, ha⟩ | ⟨h, _⟩⟩
    · obtain ⟨rfl, hw⟩ := decUsize_eq_some.1 hn
      exact .inr ⟨h0, n, hw, by rw [hl], ha⟩
    · cases h

theorem DimRun.init (K : String) (l : List (String × JVal)) (n : Nat) :
    DimRun K l none (some n) ↔ n < WORD ∧ l = [(K, .num n)] := by
  constructor
  · rintro (⟨_, ⟨⟩⟩ | ⟨_, m, hm, hl, ⟨⟩⟩)
    exact ⟨hm, hl⟩
  · rintro ⟨hn, hl⟩
    exact .inr ⟨rfl, n, hn, hl, rfl⟩

/-- What the loop does with the `data` key, read off the entries `l` that carry it: every one must decode, and the last one
    is kept (a repeated `data` key overwrites). -/
def DataRun (dec : JVal → Option α) (l : List (String × JVal)) (d0 d : Option (List α)) : Prop :=
  (∀ kv ∈ l, (decVec dec kv.2).isSome) ∧
    ((l = [] ∧ d = d0) ∨ ∃ v xs, l.getLast? = some ("data", v) ∧ decVec dec v = some xs ∧ d = some xs)

theorem DataRun.cons (dec : JVal → Option α) (v : JVal) (l : List (String × JVal)) (d0 d : Option (List α)) :
    DataRun dec (("data", v) :: l) d0 d ↔ ∃ xs, decVec dec v = some xs ∧ DataRun dec l (some xs) d := by
  unfold DataRun
  rw [List.forall_mem_cons, List.getLast?_cons]
  constructor
  · rintro ⟨⟨hv, hall⟩, h | ⟨w, ys, hw, hys, hd⟩⟩
    · cases h.1
    · obtain ⟨xs, hxs⟩ := Option.isSome_iff_exists.1 hv
      refine ⟨xs, hxs, hall, ?_⟩
      cases hl : l.getLast? with
      | none =>
        rw [hl] at hw
        cases hw
        exact .inl ⟨List.getLast?_eq_none_iff.1 hl, by rw [hd, ← hys, hxs]⟩
      | some kv =>
        rw [hl] at hw
        exact .inr ⟨w, ys, hw, hys, hd⟩
  · rintro ⟨xs, hxs, hall, ⟨hl, hd⟩ | ⟨w, ys, hw, hys, hd⟩⟩
    · refine ⟨⟨by rw [hxs]; rfl, hall⟩, .inr ⟨v, xs, by rw [hl]; rfl, hxs, hd⟩⟩
    · exact ⟨⟨by rw [hxs]; rfl, hall⟩, .inr ⟨w, ys, by rw [hw]; rfl, hys, hd⟩⟩

theorem DataRun.init (dec : JVal → Option α) (l : List (String × JVal)) (xs : List α) :
    DataRun dec l none (some xs) ↔
      (∀ kv ∈ l, (decVec dec kv.2).isSome) ∧ ∃ v, l.getLast? = some ("data", v) ∧ decVec dec v = some xs := by
  constructor
  · rintro ⟨hall, ⟨_, ⟨⟩⟩ | ⟨v, ys, hl, hv, ⟨⟩⟩⟩
    exact ⟨hall, v, hl, hv⟩
  · rintro ⟨hall, v, hl, hv⟩
    exact ⟨hall, .inr ⟨v, xs, hl, hv, rfl⟩⟩

theorem filter_key_pos (k : String) (v : JVal) (rest : List (String × JVal)) :
    ((k, v) :: rest).filter (fun kv => kv.1 == k) = (k, v) :: rest.filter (fun kv => kv.1 == k) :=
  List.filter_cons_of_pos (beq_self_eq_true k)

theorem filter_key_neg {k k' : String} (hne : k ≠ k') (v : JVal) (rest : List (String × JVal)) :
    ((k, v) :: rest).filter (fun kv => kv.1 == k') = rest.filter (fun kv => kv.1 == k') :=
  List.filter_cons_of_neg (by simpa using hne)

/-- **The visitor loop, exactly**, for arbitrary accumulators: it succeeds iff only the three keys occur and each key's
    entries, taken by themselves, are acceptable to that key's accumulator (`DimRun`, `DataRun`). -/
theorem visitLoop_eq_some_iff (dec : JVal → Option α) (kvs : List (String × JVal))
    (nc0 nr0 : Option Nat) (d0 : Option (List α)) (nc nr : Option Nat) (d : Option (List α)) :
    visitLoop dec kvs nc0 nr0 d0 = some (nc, nr, d) ↔
      (∀ kv ∈ kvs, kv.1 = "num_cols" ∨ kv.1 = "num_rows" ∨ kv.1 = "data") ∧
      DimRun "num_cols" (kvs.filter fun kv => kv.1 == "num_cols") nc0 nc ∧
      DimRun "num_rows" (kvs.filter fun kv => kv.1 == "num_rows") nr0 nr ∧
      DataRun dec (kvs.filter fun kv => kv.1 == "data") d0 d := by
  -- by `simp` (its simproc compares the literals), not `decide`
  have e12 : "num_cols" ≠ "num_rows" := by simp
  have e13 : "num_cols" ≠ "data" := by simp
  have e23 : "num_rows" ≠ "data" := by simp
  induction kvs generalizing nc0 nr0 d0 with
  | nil =>
    rw [visitLoop, Option.some.injEq]
    constructor
    · rintro ⟨⟩
      exact ⟨fun _ h => (List.not_mem_nil h).elim, .inl ⟨rfl, rfl⟩, .inl ⟨rfl, rfl⟩,
        fun _ h => (List.not_mem_nil h).elim, .inl ⟨rfl, rfl⟩⟩
    · rintro ⟨-, ⟨-, rfl⟩ | ⟨-, -, -, ⟨⟩, -⟩, ⟨-, rfl⟩ | ⟨-, -, -, ⟨⟩, -⟩, -, ⟨-, rfl⟩ | ⟨-, -, ⟨⟩, -⟩⟩
      rfl
  | cons kv rest ih =>
    obtain ⟨k, v⟩ := kv
    rw [List.forall_mem_cons]
    by_cases h1 : k = "num_cols"
    · subst h1
      rw [visitLoop_cols, ite_isSome_bind_eq_some, filter_key_pos, filter_key_neg e12, filter_key_neg e13, DimRun.cons]
      constructor
      · rintro ⟨h0, n, hn, h⟩
        obtain ⟨hk, a, b, c⟩ := (ih ..).1 h
        exact ⟨⟨.inl rfl, hk⟩, ⟨h0, n, hn, a⟩, b, c⟩
      · rintro ⟨⟨_, hk⟩, ⟨h0, n, hn, a⟩, b, c⟩
        exact ⟨h0, n, hn, (ih ..).2 ⟨hk, a, b, c⟩⟩
    by_cases h2 : k = "num_rows"
    · subst h2
      rw [visitLoop_rows, ite_isSome_bind_eq_some, filter_key_neg e12.symm, filter_key_pos, filter_key_neg e23, DimRun.cons]
      constructor
      · rintro ⟨h0, n, hn, h⟩
        obtain ⟨hk, a, b, c⟩ := (ih ..).1 h
        exact ⟨⟨.inr (.inl rfl), hk⟩, a, ⟨h0, n, hn, b⟩, c⟩
      · rintro ⟨⟨_, hk⟩, a, ⟨h0, n, hn, b⟩, c⟩
        exact ⟨h0, n, hn, (ih ..).2 ⟨hk, a, b, c⟩⟩
    by_cases h3 : k = "data"
    · subst h3
      rw [visitLoop_data, Option.bind_eq_some_iff, filter_key_neg e13.symm, filter_key_neg e23.symm, filter_key_pos, DataRun.cons]
      constructor
      · rintro ⟨xs, hx, h⟩
        obtain ⟨hk, a, b, c⟩ := (ih ..).1 h
        exact ⟨⟨.inr (.inr rfl), hk⟩, a, b, xs, hx, c⟩
      · rintro ⟨⟨_, hk⟩, a, b, xs, hx, c⟩
        exact ⟨xs, hx, (ih ..).2 ⟨hk, a, b, c⟩⟩
    · rw [visitLoop_unknown h1 h2 h3]
      exact ⟨nofun, fun h => (h.1.1.elim h1 fun h => h.elim h2 h3).elim⟩

/-- from the empty accumulators to all three values: only the three keys; each dimension stated exactly once, by a number
    literal that fits a `usize`; every `data` entry decodes and the last one gives the cells -/
theorem visitLoop_init_iff {dec : JVal → Option α} {kvs : List (String × JVal)} {nc nr : Nat} {data : List α} :
    visitLoop dec kvs none none none = some (some nc, some nr, some data) ↔
      (∀ kv ∈ kvs, kv.1 = "num_cols" ∨ kv.1 = "num_rows" ∨ kv.1 = "data") ∧
      (nc < WORD ∧ kvs.filter (fun kv => kv.1 == "num_cols") = [("num_cols", .num nc)]) ∧
      (nr < WORD ∧ kvs.filter (fun kv => kv.1 == "num_rows") = [("num_rows", .num nr)]) ∧
      (∀ kv ∈ kvs.filter (fun kv => kv.1 == "data"), (decVec dec kv.2).isSome) ∧
      ∃ v, (kvs.filter fun kv => kv.1 == "data").getLast? = some ("data", v) ∧ decVec dec v = some data := by
  rw [visitLoop_eq_some_iff, DimRun.init, DimRun.init, DataRun.init]

/-- the checks after the loop, as one condition -/
theorem deserialize_obj (dec : JVal → Option α) (kvs : List (String × JVal)) :
    deserialize dec (.obj kvs) =
      match visitLoop dec kvs none none none with
      | some (some nc, some nr, some data) =>
        if shapeOk nc nr ∧ nc * nr = data.length then .ok ⟨data, nr, nc⟩ else .err
      | _ => .err := by
  unfold deserialize
  dsimp only
  split
  · rename_i nc nr data hv
    rw [hv]
    show _ = if shapeOk nc nr ∧ nc * nr = data.length then _ else _
    -- the model writes the zero rule as `(nc = 0) ≠ (nr = 0)`, between propositions: `propext` / `Iff.of_eq` lead to the `↔` of `shapeOk`
    by_cases hs : shapeOk nc nr ∧ nc * nr = data.length
    · rw [if_pos hs, omul_of_lt hs.1.2, if_neg Bool.false_ne_true, if_neg (not_not_intro hs.2),
        if_neg (not_not_intro (propext hs.1.1)), TD.fromVec_eq, if_pos hs]
    · rw [if_neg hs]
      by_cases hw : nc * nr < WORD
      · rw [omul_of_lt hw, if_neg Bool.false_ne_true]
        by_cases hl : nc * nr = data.length
        · rw [if_neg (not_not_intro hl), if_pos fun e => hs ⟨⟨Iff.of_eq e, hw⟩, hl⟩]
        · rw [if_pos hl]
      · rw [omul_of_ge (Nat.le_of_not_lt hw), if_pos rfl]
  · rename_i h
    split
    · rename_i hv
      exact (h _ _ _ hv).elim
    · rfl

theorem deserialize_not_obj (dec : JVal → Option α) (doc : JVal) (h : ∀ kvs, doc ≠ .obj kvs) :
    deserialize dec doc = .err := by
  cases doc with
  | obj kvs => exact absurd rfl (h kvs)
  | num n => rfl
  | arr xs => rfl
  | other => rfl

theorem deserialize_ne_panic (dec : JVal → Option α) (doc : JVal) : deserialize dec doc ≠ .panic := by
  cases doc with
  | obj kvs =>
    rw [deserialize_obj]
    split
    · split <;> nofun
    · nofun
  | num n => nofun
  | arr xs => nofun
  | other => nofun

/-- **accepted documents, exactly**: an object on which the loop delivers the array's three fields, and these satisfy
    the shape invariant -/
theorem deserialize_eq_ok_iff {dec : JVal → Option α} {doc : JVal} {t : TD α} :
    deserialize dec doc = .ok t ↔ t.Inv ∧ ∃ kvs, doc = .obj kvs ∧
      visitLoop dec kvs none none none = some (some t.numCols, some t.numRows, some t.data) := by
  cases doc with
  | obj kvs =>
    rw [deserialize_obj]
    constructor
    · intro h
      split at h
      · rename_i nc nr data hv
        split at h
        · rename_i hs
          cases h
          exact ⟨.of_shape hs.1 hs.2.symm, kvs, rfl, hv⟩
        · cases h
      · cases h
    · rintro ⟨hi, _, ⟨⟩, hv⟩
      rw [hv]
      exact if_pos ⟨⟨hi.zero, hi.len ▸ hi.word⟩, hi.len.symm⟩
  | num n => exact ⟨nofun, fun h => nomatch h.2⟩
  | arr xs => exact ⟨nofun, fun h => nomatch h.2⟩
  | other => exact ⟨nofun, fun h => nomatch h.2⟩

/-- a document with exactly the three entries, in any order — the dimensions as number literals of a good shape, a `data` value that decodes
    to as many elements as their product — is accepted; the serialisers' outputs are instances -/
theorem deserialize_ok {dec : JVal → Option α} {kvs : List (String × JVal)} {nc nr : Nat} {v : JVal} {data : List α}
    (hk : kvs.Perm [("num_cols", JVal.num nc), ("num_rows", JVal.num nr), ("data", v)])
    (hd : decVec dec v = some data) (hlen : nc * nr = data.length) (hw : nc * nr < WORD) (hz : nc = 0 ↔ nr = 0) :
    deserialize dec (.obj kvs) = .ok ⟨data, nr, nc⟩ := by
  have hs : shapeOk nc nr := ⟨hz, hw⟩
  -- the entries of each key are those of the three-entry list, whatever the order
  have fc : kvs.filter (fun kv => kv.1 == "num_cols") = [("num_cols", .num nc)] :=
    List.perm_singleton.1 (by simpa using hk.filter fun kv => kv.1 == "num_cols")
  have fr : kvs.filter (fun kv => kv.1 == "num_rows") = [("num_rows", .num nr)] :=
    List.perm_singleton.1 (by simpa using hk.filter fun kv => kv.1 == "num_rows")
  have fd : kvs.filter (fun kv => kv.1 == "data") = [("data", v)] :=
    List.perm_singleton.1 (by simpa using hk.filter fun kv => kv.1 == "data")
  refine deserialize_eq_ok_iff.2 ⟨.of_shape hs hlen.symm, kvs, rfl,
    visitLoop_init_iff.2 ⟨fun kv hkv => ?_, ⟨hs.lt_word.1, fc⟩, ⟨hs.lt_word.2, fr⟩, ?_, v, ?_, hd⟩⟩
  · have := hk.subset hkv
    simp only [List.mem_cons, List.not_mem_nil, or_false] at this
    rcases this with rfl | rfl | rfl
    · exact .inl rfl
    · exact .inr (.inl rfl)
    · exact .inr (.inr rfl)
  · rw [fd, List.forall_mem_singleton, hd]
    rfl
  · rw [fd]
    rfl

end Toodee
