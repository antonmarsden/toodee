import Toodee.Base.Mem
import Toodee.Proofs.ListLemmas
/-
  The raw-memory primitives (`memmove`, `memmoveChecked`, `ptrWrite`) on buffers written as concatenations of blocks: a block
  moves across junk of the same length (right for insert_row / insert_col, left for remove_col's compaction); what is junk
  afterwards has the same length and unknown content.  For users: `memmoveChecked_ok/_right/_left/_self` and
  `memmove_right_then_write` (one iteration of `insert_col`); `memmove_right`, `memmove_left`, `ptrWrite_last_of_junk` are the
  steps to them.
-/
namespace Toodee
variable {α : Type}

theorem memmove_self (buf : List α) (p n : Nat) : memmove buf p p n = buf :=
  (take_mid_drop buf p n).symm

theorem memmove_zero (buf : List α) (src dst : Nat) : memmove buf src dst 0 = buf := by
  simp [memmove]

/-- move `blk` RIGHT across the junk `J`: the junk (same length, new content) ends up on the left of the block.  An `∃`, not an
    equation, on purpose: the cells the move leaves behind (`(blk ++ J).take J.length` in this model) are moved-from memory,
    and no proof may depend on what they hold -/
theorem memmove_right (X blk J Y : List α) :
    ∃ J', J'.length = J.length ∧
      memmove (X ++ blk ++ J ++ Y) X.length (X.length + J.length) blk.length = X ++ J' ++ blk ++ Y := by
  refine ⟨(blk ++ J).take J.length, by simp, ?_⟩
  have h1 : (X ++ blk ++ J ++ Y).take (X.length + J.length) = X ++ (blk ++ J).take J.length := by
    rw [List.append_assoc X, List.append_assoc X, List.take_length_add_append,
      List.take_append_of_le_length (by simp)]
  have h2 : ((X ++ blk ++ J ++ Y).drop X.length).take blk.length = blk := by
    rw [List.append_assoc X, List.append_assoc X, List.drop_left, List.append_assoc, List.take_left]
  have h3 : (X ++ blk ++ J ++ Y).drop (X.length + J.length + blk.length) = Y :=
    List.drop_left' (by simp only [List.length_append]; exact Nat.add_right_comm ..)
  rw [memmove, h1, h2, h3]

/-- move `blk` LEFT across the junk `J`: the junk (same length, new content) ends up on the right of the block -/
theorem memmove_left (X J blk Y : List α) :
    ∃ J', J'.length = J.length ∧
      memmove (X ++ J ++ blk ++ Y) (X.length + J.length) X.length blk.length = X ++ blk ++ J' ++ Y := by
  refine ⟨(J ++ blk).drop blk.length, by simp, ?_⟩
  have h1 : (X ++ J ++ blk ++ Y).take X.length = X := by
    rw [List.append_assoc X, List.append_assoc X, List.take_left]
  have h2 : ((X ++ J ++ blk ++ Y).drop (X.length + J.length)).take blk.length = blk := by
    rw [← List.length_append, List.append_assoc (X ++ J), List.drop_left, List.take_left]
  have h3 : (X ++ J ++ blk ++ Y).drop (X.length + blk.length) = (J ++ blk).drop blk.length ++ Y := by
    rw [List.append_assoc X, List.append_assoc X, List.drop_length_add_append,
      List.drop_append_of_le_length (by simp)]
  rw [memmove, h1, h2, h3, List.append_assoc X blk]
  simp only [List.append_assoc]

theorem memmoveChecked_ok {buf : List α} {src dst n : Nat} (h1 : src + n ≤ buf.length) (h2 : dst + n ≤ buf.length) :
    memmoveChecked buf src dst n = .ok (memmove buf src dst n) :=
  if_pos ⟨h1, h2⟩

theorem memmoveChecked_right (X blk J Y : List α) :
    ∃ J', J'.length = J.length ∧
      memmoveChecked (X ++ blk ++ J ++ Y) X.length (X.length + J.length) blk.length = .ok (X ++ J' ++ blk ++ Y) := by
  obtain ⟨J', h1, h2⟩ := memmove_right X blk J Y
  refine ⟨J', h1, ?_⟩
  rw [memmoveChecked_ok ?_ ?_, h2] <;> simp only [List.length_append]
  · exact Nat.le_trans (Nat.le_add_right _ _) (Nat.le_add_right _ _)
  · rw [Nat.add_right_comm X.length J.length]
    exact Nat.le_add_right _ _

theorem memmoveChecked_left (X J blk Y : List α) :
    ∃ J', J'.length = J.length ∧
      memmoveChecked (X ++ J ++ blk ++ Y) (X.length + J.length) X.length blk.length = .ok (X ++ blk ++ J' ++ Y) := by
  obtain ⟨J', h1, h2⟩ := memmove_left X J blk Y
  refine ⟨J', h1, ?_⟩
  rw [memmoveChecked_ok ?_ ?_, h2] <;> simp only [List.length_append]
  · exact Nat.le_add_right _ _
  · rw [Nat.add_right_comm X.length J.length]
    exact Nat.le_trans (Nat.le_add_right _ _) (Nat.le_add_right _ _)

theorem memmoveChecked_self (buf : List α) (p n : Nat) (h : p + n ≤ buf.length) :
    memmoveChecked buf p p n = .ok buf := by
  rw [memmoveChecked_ok h h, memmove_self]

theorem set_first_of_junk (X J Y : List α) (x : α) (hJ : 0 < J.length) :
    ∃ J', J'.length + 1 = J.length ∧ (X ++ J ++ Y).set X.length x = X ++ [x] ++ J' ++ Y := by
  match J, hJ with
  | j :: J0, _ =>
    refine ⟨J0, by simp, ?_⟩
    simp

/-- `ptr::write` into the last cell of the block `J` -/
theorem ptrWrite_last_of_junk (X J Y : List α) (x : α) (hJ : 0 < J.length) :
    ∃ J', J'.length + 1 = J.length ∧ ptrWrite (X ++ J ++ Y) (X.length + J.length - 1) x = .ok (X ++ J' ++ [x] ++ Y) := by
  rcases List.eq_nil_or_concat J with rfl | ⟨J0, j, rfl⟩
  · simp at hJ
  · rw [List.concat_eq_append] at *
    refine ⟨J0, by simp, ?_⟩
    have hp : X.length + (J0 ++ [j]).length - 1 = (X ++ J0).length := by simp
    rw [ptrWrite, if_pos (by simp), hp, show X ++ (J0 ++ [j]) ++ Y = (X ++ J0) ++ (j :: Y) by simp,
      List.set_append_right _ _ (Nat.le_refl _)]
    simp

/-- move `blk` right across the junk `J`, then `ptr::write` into the last cell of what is junk now: the two raw steps of one
    iteration of `insert_col` -/
theorem memmove_right_then_write (X blk J Y : List α) (x : α) (hJ : 0 < J.length) :
    ∃ J₁ J', J'.length + 1 = J.length ∧
      memmoveChecked (X ++ blk ++ J ++ Y) X.length (X.length + J.length) blk.length = .ok (X ++ J₁ ++ blk ++ Y) ∧
      ptrWrite (X ++ J₁ ++ blk ++ Y) (X.length + J.length - 1) x = .ok (X ++ J' ++ x :: blk ++ Y) := by
  obtain ⟨J₁, h1, hmv⟩ := memmoveChecked_right X blk J Y
  obtain ⟨J', h2, hpw⟩ := ptrWrite_last_of_junk X J₁ (blk ++ Y) x (h1 ▸ hJ)
  refine ⟨J₁, J', h2.trans h1, hmv, ?_⟩
  rw [List.append_assoc (X ++ J₁), ← h1, hpw]
  simp

end Toodee
