import Toodee.Proofs.SwapLemmas
/-
  The row loops of `copy_from_slice` / `copy_from_toodee` (`zipCopy`, `tdCopyLoop`) and of `copy_within`, each as one `updCells`; then
  the five copy operations, each as one equation for every argument (`Acc.Of.copyFromSlice_eq`, `TD.Inv.copyFromSlice_eq`, `Acc.Of.copyFromTooDee_eq`,
  `TD.Inv.copyFromTooDee_eq`, `Acc.Of.copyWithin_eq`: `call = if sizes agree / rectangles fit then .ok (updCells …) else .error .panic`).
-/
namespace Toodee
variable {α : Type}

theorem writeWin_length (buf : List α) (w : Win) (vals : List α) (h : w.off + w.len ≤ buf.length)
    (hv : vals.length = w.len) : (writeWin buf w vals).length = buf.length :=
  writeWin_length_of_inside buf w vals h hv

theorem copyIntoWin_ok (buf : List α) (d : Win) (s : List α) (h : d.len = s.length) :
    copyIntoWin buf d s = .ok (writeWin buf d s) := by
  simp [copyIntoWin, h]

theorem zipCopy_map {ι : Type} (d : ι → Win) (s : ι → List α) (l : List ι) (buf : List α) :
    zipCopy buf (l.map d) (l.map s) = l.foldlM (fun b i => copyIntoWin b (d i) (s i)) buf := by
  induction l generalizing buf with
  | nil => rfl
  | cons i l ih =>
    simp only [List.map_cons, zipCopy, List.foldlM_cons]
    exact bind_congr fun b => ih b

/-- copying the lists `g 0, g 1, …` onto the rows of a view, one by one, is one overwrite -/
theorem VW.Inv.zipCopy_rows {v : VW} {buf : List α} (h : v.Inv buf.length) (g : Nat → List α)
    (hg : ∀ r, r < v.numRows → (g r).length = v.numCols) :
    zipCopy buf ((List.range v.numRows).map v.rowWin) ((List.range v.numRows).map g)
      = .ok (v.updCells buf fun cr => (g cr.2)[cr.1]?) := by
  rw [zipCopy_map]
  refine VW.foldlM_range_updRows (fun cr => (g cr.2)[cr.1]?) _ fun D r hr => ?_
  rw [copyIntoWin_ok _ _ _ (hg r hr).symm]
  refine congrArg Except.ok ((h.writeWin_seg_updCells _ (g r) hr (Nat.le_of_eq (Nat.zero_add _)) (hg r hr)).trans
    (VW.updCells_congr _ _ _ _ fun c r' hc _ => ?_))
  by_cases hrr : r' = r
  · simp [hrr, hc]
  · simp [hrr]

/-- … when the lists are the rows of another receiver `sv` over its own buffer `sbuf` -/
theorem VW.Inv.zipCopy_rows_from {v : VW} {buf : List α} (h : v.Inv buf.length) {sv : VW} {sbuf : List α}
    (hs : sv.Inv sbuf.length) (hC : v.numCols = sv.numCols) (hR : v.numRows = sv.numRows) :
    zipCopy buf ((List.range v.numRows).map v.rowWin) ((List.range v.numRows).map (readWin sbuf ∘ sv.rowWin))
      = .ok (v.updCells buf fun cr => sbuf[sv.pos cr.1 cr.2]?) := by
  rw [h.zipCopy_rows (readWin sbuf ∘ sv.rowWin) fun r hr =>
    (readWin_length _ _ (hs.rowWin_inside (hR ▸ hr))).trans hC.symm]
  refine congrArg Except.ok (VW.updCells_congr _ _ _ _ fun c r hc _ => ?_)
  exact (VW.readWin_rowWin_getElem? sv sbuf r c).trans (if_pos (hC ▸ hc))

/-- the `TooDee` loop (successive `split_at_mut(num_cols)`) visits the same windows; `k`: the loop is entered at row 0, the induction
    needs the window to start at any row -/
theorem tdCopyLoop_eq_zipCopy (C : Nat) : ∀ (rs : List (List α)) (k : Nat) (b : List α),
    tdCopyLoop C b ⟨k * C, rs.length * C⟩ rs =
      zipCopy b ((List.range' k rs.length).map fun i => ⟨i * C, C⟩) rs := by
  intro rs
  induction rs with
  | nil => intro k b; simp [tdCopyLoop, zipCopy]
  | cons r rs ih =>
    intro k b
    have hle : C ≤ (rs.length + 1) * C := Nat.le_mul_of_pos_left C (Nat.succ_pos _)
    have hsnd : (⟨k * C + C, (rs.length + 1) * C - C⟩ : Win) = ⟨(k + 1) * C, rs.length * C⟩ := by
      rw [Nat.succ_mul, Nat.succ_mul, Nat.add_sub_cancel]
    simp only [tdCopyLoop, List.length_cons, Win.splitAt, if_pos hle, pure_eq, ok_bind,
      List.range'_succ, List.map_cons, zipCopy, hsnd]
    cases copyIntoWin b ⟨k * C, C⟩ r with
    | error e => rfl
    | ok b' => simp only [ok_bind]; exact ih (k + 1) b'

/-- entered with the whole buffer of an owned array, the loop visits the row windows of `t.asView` -/
theorem TD.Inv.tdCopyLoop_rows {t : TD α} (h : t.Inv) (rs : List (List α)) (hrs : rs.length = t.numRows) (b : List α) :
    tdCopyLoop t.numCols b t.win rs = zipCopy b ((List.range t.asView.numRows).map t.asView.rowWin) rs := by
  have hwin : t.win = ⟨0 * t.numCols, rs.length * t.numCols⟩ := by simp [TD.win, h.len, hrs, Nat.mul_comm]
  rw [hwin, tdCopyLoop_eq_zipCopy, hrs, ← List.range_eq_range']
  exact congrArg (zipCopy b · rs) (List.map_congr_left fun i _ => by simp [VW.rowWin, VW.pos, TD.asView, TD.win])

/-- copying the segment `s0 …` of row `r` onto the segment `d0 …` of row `r2`, in a buffer that is an overwrite of `buf` which
    has left row `r` alone: row `r2` receives *original* cells -/
theorem VW.Inv.copySeg_updCells {v : VW} {buf : List α} (h : v.Inv buf.length) (F : Nat × Nat → Option α)
    {r r2 s0 d0 w : Nat} (hr : r < v.numRows) (hr2 : r2 < v.numRows) (hs : s0 + w ≤ v.numCols)
    (hd : d0 + w ≤ v.numCols) (hF : ∀ c, F (c, r) = none) :
    writeWin (v.updCells buf F) ⟨v.pos d0 r2, w⟩ (readWin (v.updCells buf F) ⟨v.pos s0 r, w⟩) =
      v.updCells buf fun cr =>
        if cr.2 = r2 ∧ d0 ≤ cr.1 ∧ cr.1 < d0 + w then buf[v.pos (cr.1 - d0 + s0) r]? else F cr := by
  have hread : readWin (v.updCells buf F) ⟨v.pos s0 r, w⟩ = readWin buf ⟨v.pos s0 r, w⟩ := by
    apply List.ext_getElem?
    intro i
    rw [readWin_getElem?, readWin_getElem?]
    by_cases hi : i < w
    · simp only [if_pos hi, ← VW.pos_add]
      rw [h.updCells_pos F (Nat.lt_of_lt_of_le (Nat.add_lt_add_left hi _) hs) hr, hF]
    · simp only [if_neg hi]
  rw [hread, h.writeWin_seg_updCells F _ hr2 hd (readWin_length _ _ (h.seg_inside hr hs))]
  apply VW.updCells_congr
  intro c r' _ _
  by_cases hA : r' = r2 ∧ d0 ≤ c ∧ c < d0 + w
  · simp only [if_pos hA, readWin_getElem?, if_pos (Nat.sub_lt_left_of_lt_add hA.2.1 hA.2.2), Nat.add_comm (c - d0), VW.pos_add]
  · simp only [if_neg hA]

/-- what `copy_within` prescribes for the `i`-th destination row: the segment of the `i`-th source row -/
theorem copyWithinCells_row (v : VW) (buf : List α) (tl br dest : Nat × Nat) {i : Nat} (hi : i < br.2 - tl.2) (c : Nat) :
    copyWithinCells v buf tl br dest (c, dest.2 + i) =
      if dest.1 ≤ c ∧ c < dest.1 + (br.1 - tl.1) then buf[v.pos (c - dest.1 + tl.1) (tl.2 + i)]? else none := by
  unfold copyWithinCells
  by_cases hcol : dest.1 ≤ c ∧ c < dest.1 + (br.1 - tl.1)
  · rw [if_pos hcol, if_pos ⟨hcol.1, hcol.2, Nat.le_add_right _ _, Nat.add_lt_add_left hi _⟩, Nat.add_sub_cancel_left,
      Nat.add_comm i]
  · rw [if_neg hcol, if_neg fun hh => hcol ⟨hh.1, hh.2.1⟩]

/-- the destination row when the rectangle moves down by `d - t` resp. up by `t - d` -/
theorem copyWithin_row_down {t d i : Nat} (h : t < d) : t + i + (d - t) = d + i := by
  rw [Nat.add_right_comm, Nat.add_sub_cancel' (Nat.le_of_lt h)]

theorem copyWithin_row_up {t d i : Nat} (h : d < t) : t - d ≤ t + i ∧ t + i - (t - d) = d + i := by
  obtain ⟨k, rfl⟩ := Nat.exists_eq_add_of_le (Nat.le_of_lt h)
  exact ⟨Nat.le_trans (Nat.sub_le _ _) (Nat.le_add_right _ _), by
    rw [Nat.add_sub_cancel_left, Nat.add_right_comm, Nat.add_sub_cancel]⟩

/-- The row loop of `copy_within`: the `i`-th source row is copied onto the `i`-th destination row; top-down when the rectangle
    moves up, bottom-up when it moves down, so that no source row is overwritten before it is read.  `h1`, `h3` … `h6` are the
    conjuncts of `rectsFit` under their position there (the second, `tl.2 ≤ br.2`, is not needed); likewise in the two step lemmas below. -/
theorem VW.Inv.copyWithin_loop {v : VW} {buf : List α} (h : v.Inv buf.length) (tl br dest : Nat × Nat)
    (h1 : tl.1 ≤ br.1) (h3 : br.1 ≤ v.numCols) (h4 : br.2 ≤ v.numRows)
    (h5 : dest.1 + (br.1 - tl.1) ≤ v.numCols) (h6 : dest.2 + (br.2 - tl.2) ≤ v.numRows)
    (step : List α → Nat → Res (List α)) (rs : List Nat)
    (hrs : (dest.2 ≤ tl.2 ∧ rs = (List.range (br.2 - tl.2)).map (tl.2 + ·)) ∨
      (tl.2 ≤ dest.2 ∧ rs = ((List.range (br.2 - tl.2)).map (tl.2 + ·)).reverse))
    (hstep : ∀ b i, b.length = buf.length → tl.2 + i < v.numRows → dest.2 + i < v.numRows → step b (tl.2 + i) =
      .ok (writeWin b ⟨v.pos dest.1 (dest.2 + i), br.1 - tl.1⟩ (readWin b ⟨v.pos tl.1 (tl.2 + i), br.1 - tl.1⟩))) :
    rs.foldlM step buf = .ok (v.updCells buf (copyWithinCells v buf tl br dest)) := by
  have key : ∀ is : List Nat, (∀ i, i ∈ is ↔ i < br.2 - tl.2) → is.Pairwise (fun i j => dest.2 + i ≠ tl.2 + j) →
      (is.map (tl.2 + ·)).foldlM step buf = .ok (v.updCells buf (copyWithinCells v buf tl br dest)) := by
    intro is hmem hpw
    rw [List.foldlM_map]
    refine VW.foldlM_updRows _ (tl.2 + ·) (dest.2 + ·) _ is (fun D i hi hD => ?_) hpw fun c r _ _ hr => ?_
    · have hi' := (hmem i).1 hi
      have hr : tl.2 + i < v.numRows := Nat.lt_of_lt_of_le (Nat.add_lt_of_lt_sub' hi') h4
      have hr' : dest.2 + i < v.numRows := Nat.lt_of_lt_of_le (Nat.add_lt_add_left hi' _) h6
      rw [hstep _ i (VW.updCells_length _ _ _) hr hr',
        h.copySeg_updCells _ hr hr' (Nat.le_trans (Nat.le_of_eq (Nat.add_sub_cancel' h1)) h3) h5 (fun c => if_neg hD)]
      refine congrArg Except.ok (VW.updCells_congr _ _ _ _ fun c r' _ _ => ?_)
      by_cases hrow : r' = dest.2 + i
      · subst hrow
        simp only [copyWithinCells_row v buf tl br dest hi', List.mem_cons, true_or, true_and, if_true]
        by_cases hcol : dest.1 ≤ c ∧ c < dest.1 + (br.1 - tl.1)
        · simp only [if_pos hcol]
        · simp only [if_neg hcol, ite_self]
      · simp only [List.mem_cons, hrow, false_or, false_and, if_false]
    · -- a row that is no destination row gets nothing
      refine if_neg fun hh => hr ?_
      rw [List.mem_map]
      exact ⟨r - dest.2, (hmem _).2 (Nat.sub_lt_left_of_lt_add hh.2.2.1 hh.2.2.2), Nat.add_sub_cancel' hh.2.2.1⟩
  rcases hrs with ⟨hd, rfl⟩ | ⟨hd, rfl⟩
  · exact key _ (fun _ => List.mem_range) (List.Pairwise.imp (fun {i j} (hij : i < j) =>
      Nat.ne_of_lt (Nat.lt_of_lt_of_le (Nat.add_lt_add_left hij _) (Nat.add_le_add_right hd _))) List.pairwise_lt_range)
  · rw [← List.map_reverse]
    refine key _ (fun _ => by rw [List.mem_reverse, List.mem_range]) ?_
    rw [List.pairwise_reverse]
    exact List.Pairwise.imp (fun {i j} (hij : i < j) =>
      Nat.ne_of_gt (Nat.lt_of_lt_of_le (Nat.add_lt_add_left hij _) (Nat.add_le_add_right hd _))) List.pairwise_lt_range

/-- `Less` / `Greater` arms: one `row_pair_mut` step -/
theorem VW.Inv.copyWithinRowPair_ok {v : VW} {n : Nat} (h : v.Inv n) (m : Mode) {a : Acc} (ha : a.Of v n) (b : List α)
    (hb : b.length = n) {r r2 tl0 br0 dest0 : Nat} (hr : r < v.numRows) (hr2 : r2 < v.numRows) (hne : r ≠ r2)
    (h1 : tl0 ≤ br0) (h3 : br0 ≤ v.numCols) (h5 : dest0 + (br0 - tl0) ≤ v.numCols) :
    copyWithinRowPair m a b r r2 tl0 br0 dest0 (br0 - tl0) =
      .ok (writeWin b ⟨v.pos dest0 r2, br0 - tl0⟩ (readWin b ⟨v.pos tl0 r, br0 - tl0⟩)) := by
  have hsrc : v.pos tl0 r + (br0 - tl0) ≤ b.length :=
    hb ▸ h.seg_inside hr (Nat.le_trans (Nat.le_of_eq (Nat.add_sub_cancel' h1)) h3)
  unfold copyWithinRowPair
  rw [ha.rowPairMut_eq m, if_pos ⟨hr, hr2, hne⟩]
  simp only [ok_bind, uadd_ok m (Nat.lt_of_le_of_lt h5 h.cols_word)]
  rw [Win.indexRange_ok (w := v.rowWin r2) (Nat.le_add_right _ _) h5, Win.indexRange_ok (w := v.rowWin r) h1 h3]
  simp only [ok_bind, VW.rowWin, VW.pos_zero_add, Nat.add_sub_cancel_left]
  exact copyIntoWin_ok _ _ _ (readWin_length b ⟨v.pos tl0 r, br0 - tl0⟩ hsrc).symm

/-- `Equal` arm: one `slice::copy_within` step -/
theorem sliceCopyWithin_ok (v : VW) (b : List α) {r tl0 br0 dest0 : Nat}
    (h1 : tl0 ≤ br0) (h3 : br0 ≤ v.numCols) (h5 : dest0 + (br0 - tl0) ≤ v.numCols) :
    sliceCopyWithin b (v.rowWin r) tl0 br0 dest0 =
      .ok (writeWin b ⟨v.pos dest0 r, br0 - tl0⟩ (readWin b ⟨v.pos tl0 r, br0 - tl0⟩)) := by
  unfold sliceCopyWithin
  rw [if_neg (by simp only [VW.rowWin]; exact fun hn => hn ⟨h1, h3⟩),
    if_neg (by simp only [VW.rowWin]; exact fun hn => hn (Nat.le_sub_of_add_le h5))]
  simp only [copyWithinWin, VW.rowWin, VW.pos_zero_add, pure_eq]

/-! ### The copy operations, each as one equation for every argument -/

/-- default `copy_from_slice` / `clone_from_slice` for every argument -/
theorem Acc.Of.copyFromSlice_eq {a : Acc} {v : VW} {buf : List α} (ha : a.Of v buf.length) (h : v.Inv buf.length)
    (m : Mode) (src : List α) :
    a.copyFromSlice m buf src =
      if v.numCols * v.numRows = src.length then .ok (v.updCells buf fun cr => src[cr.2 * v.numCols + cr.1]?)
      else .error .panic := by
  simp only [Acc.copyFromSlice, guard_bind, ha.cols, ha.rows, umul_ok m h.area_word, ok_bind]
  refine Res.eq_ite_iff.2 ⟨fun hlen => ?_, fun hlen => if_neg hlen⟩
  rw [if_pos hlen]
  by_cases hc0 : v.numCols = 0
  · rw [if_pos hc0, updCells_eq_self v buf _ fun c _ hc _ => absurd (hc0 ▸ hc) (Nat.not_lt_zero _)]
    rfl
  · have hdiv : src.length / v.numCols = v.numRows := by
      rw [← hlen, Nat.mul_div_cancel_left _ (Nat.pos_of_ne_zero hc0)]
    rw [if_neg hc0, ha.collect_rows, ok_bind, chunksExact, if_neg hc0, pure_eq, ok_bind, hdiv]
    -- the `r`-th chunk is the window `r*C … r*C + C` of `src`
    refine (h.zipCopy_rows (fun r => readWin src ⟨r * v.numCols, v.numCols⟩) fun r hr =>
      readWin_length _ _ (hlen ▸ rowMajor_row_end_le hr)).trans ?_
    exact congrArg Except.ok (VW.updCells_congr _ _ _ _ fun c r hc _ =>
      (readWin_getElem? src _ c).trans (if_pos hc))

/-- `TooDee` override, for every argument: the new buffer is `src` itself, which is what the default computes cell by cell -/
theorem TD.Inv.copyFromSlice_eq {t : TD α} (h : t.Inv) (src : List α) :
    t.copyFromSlice src =
      if t.numCols * t.numRows = src.length then .ok (t.asView.updCells t.data fun cr => src[cr.2 * t.numCols + cr.1]?)
      else .error .panic := by
  rw [TD.copyFromSlice, h.len]
  refine Res.eq_ite_iff.2 ⟨fun hlen => ?_, fun hne => if_pos hne⟩
  rw [if_neg (Classical.not_not.2 hlen), h.updCells_eq src hlen.symm _ fun _ _ _ _ => rfl]
  rfl

/-- default `copy_from_toodee` / `clone_from_toodee` for every argument; the source is any receiver `sv` over its own buffer `sbuf` -/
theorem Acc.Of.copyFromTooDee_eq {a : Acc} {v : VW} {buf : List α} (ha : a.Of v buf.length) (h : v.Inv buf.length)
    (sv : VW) (sbuf : List α) (hs : sv.Inv sbuf.length) (sa : Acc) (hsa : sa.Of sv sbuf.length) :
    a.copyFromTooDee buf sa sbuf =
      if v.numCols = sv.numCols ∧ v.numRows = sv.numRows then .ok (v.updCells buf fun cr => sbuf[sv.pos cr.1 cr.2]?)
      else .error .panic := by
  simp only [Acc.copyFromTooDee, guard_bind, ha.cols, ha.rows, hsa.cols, hsa.rows]
  refine Res.eq_ite_iff.2 ⟨fun hd => ?_, fun hd => if_neg hd⟩
  rw [if_pos hd, ha.collect_rows, hsa.collect_rows, ok_bind, ok_bind, List.map_map, ← hd.2]
  exact h.zipCopy_rows_from hs hd.1 hd.2

/-- `TooDee` override of `copy_from_toodee` / `clone_from_toodee` for every argument -/
theorem TD.Inv.copyFromTooDee_eq {t : TD α} (h : t.Inv) (sv : VW) (sbuf : List α) (hs : sv.Inv sbuf.length)
    (sa : Acc) (hsa : sa.Of sv sbuf.length) :
    t.copyFromTooDee sa sbuf =
      if t.numCols = sv.numCols ∧ t.numRows = sv.numRows then
        .ok (t.asView.updCells t.data fun cr => sbuf[sv.pos cr.1 cr.2]?)
      else .error .panic := by
  simp only [TD.copyFromTooDee, guard_bind, hsa.cols, hsa.rows]
  refine Res.eq_ite_iff.2 ⟨fun hd => ?_, fun hd => if_neg hd⟩
  have hinv := h.asView
  rw [if_pos hd, hsa.collect_rows, ok_bind, List.map_map, ← hd.2]
  rw [h.tdCopyLoop_rows _ (by rw [List.length_map, List.length_range])]
  exact hinv.zipCopy_rows_from hs hd.1 hd.2

/-- the specification's `dest + w ≤ C` is the implementation's `dest <= C && w <= C - dest` -/
theorem add_le_iff_le_sub {d w C : Nat} : d + w ≤ C ↔ d ≤ C ∧ w ≤ C - d :=
  ⟨fun h => ⟨Nat.le_trans (Nat.le_add_right _ _) h, Nat.le_sub_of_add_le' h⟩, fun h => Nat.add_le_of_le_sub' h.1 h.2⟩

/-- `copy_within` for every argument.  `indexRowMut` is the implementor's `IndexMut<usize>`; for a view or an owned array `hidx` is
    `VW.Inv.indexRow_ok`. -/
theorem Acc.Of.copyWithin_eq {a : Acc} {v : VW} {buf : List α} (ha : a.Of v buf.length) (h : v.Inv buf.length) (m : Mode)
    (indexRowMut : Nat → Res Win) (hidx : ∀ r, r < v.numRows → indexRowMut r = .ok (v.rowWin r))
    (tl br dest : Nat × Nat) :
    a.copyWithin m indexRowMut buf tl br dest =
      if rectsFit v.numCols v.numRows tl br dest then .ok (v.updCells buf (copyWithinCells v buf tl br dest))
      else .error .panic := by
  have hRw := h.rows_word
  -- the guards become nested `if`s with `panic` in every `else`
  simp only [Acc.copyWithin, guard_bind, ha.cols, ha.rows]
  by_cases hfit : rectsFit v.numCols v.numRows tl br dest
  · rw [if_pos hfit]
    obtain ⟨h1, h2, h3, h4, h5, h6⟩ := hfit
    obtain ⟨g1, g3⟩ := add_le_iff_le_sub.1 h5
    obtain ⟨g2, g4⟩ := add_le_iff_le_sub.1 h6
    rw [if_pos h1, if_pos h2, if_pos h3, if_pos h4, usub_ok m h1, usub_ok m h2, ok_bind, ok_bind, if_pos g1,
      usub_ok m g1, ok_bind, if_pos g3, if_pos g2, usub_ok m g2, ok_bind, if_pos g4]
    have rows := h.copyWithin_loop tl br dest h1 h3 h4 h5 h6
    by_cases hlt : tl.2 < dest.2
    · -- `Less`: bottom-up
      rw [if_pos hlt, usub_ok m (Nat.le_of_lt hlt), ok_bind]
      refine rows _ _ (Or.inr ⟨Nat.le_of_lt hlt, rfl⟩) fun b i hb hr hr' => ?_
      rw [uadd_ok m (copyWithin_row_down hlt ▸ Nat.lt_trans hr' hRw), ok_bind, copyWithin_row_down hlt]
      exact h.copyWithinRowPair_ok m ha b hb hr hr' (fun he => Nat.ne_of_lt hlt (Nat.add_right_cancel he)) h1 h3 h5
    · rw [if_neg hlt]
      by_cases hgt : tl.2 > dest.2
      · -- `Greater`: top-down
        rw [if_pos hgt, usub_ok m (Nat.le_of_lt hgt), ok_bind]
        refine rows _ _ (Or.inl ⟨Nat.le_of_lt hgt, rfl⟩) fun b i hb hr hr' => ?_
        rw [usub_ok m (copyWithin_row_up hgt).1, ok_bind, (copyWithin_row_up hgt).2]
        exact h.copyWithinRowPair_ok m ha b hb hr hr' (fun he => Nat.ne_of_gt hgt (Nat.add_right_cancel he)) h1 h3 h5
      · -- `Equal`: per-row memmove
        rw [if_neg hgt]
        refine rows _ _ (Or.inl ⟨Nat.le_of_not_lt hlt, rfl⟩) fun b i hb hr _ => ?_
        rw [hidx _ hr, ok_bind, Nat.le_antisymm (Nat.le_of_not_lt hlt) (Nat.le_of_not_lt hgt)]
        exact sliceCopyWithin_ok v b h1 h3 h5
  · -- the first guard that fails panics; if none fails the rectangles fit
    rw [if_neg hfit]
    refine ite_eq_right_iff.2 fun h1 => ite_eq_right_iff.2 fun h2 => ite_eq_right_iff.2 fun h3 =>
      ite_eq_right_iff.2 fun h4 => ?_
    rw [usub_ok m h1, usub_ok m h2, ok_bind, ok_bind]
    refine ite_eq_right_iff.2 fun g1 => ?_
    rw [usub_ok m g1, ok_bind]
    refine ite_eq_right_iff.2 fun g3 => ite_eq_right_iff.2 fun g2 => ?_
    rw [usub_ok m g2, ok_bind]
    exact ite_eq_right_iff.2 fun g4 =>
      absurd ⟨h1, h2, h3, h4, add_le_iff_le_sub.2 ⟨g1, g3⟩, add_le_iff_le_sub.2 ⟨g2, g4⟩⟩ hfit

end Toodee
