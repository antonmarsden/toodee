import Toodee.Spec.Inv
/-
  The derived traits of `TooDee` as the model transcribes them.  `TD.sliceEq` (`[T] == [T]`) is core's `List.isEqv`; core states its
  lemmas for `==` with `LawfulBEq` or with dependent indices, so the forms C20 needs are proved here: index by index with `getElem?`,
  for a lawful element equality, and under the `Hash`/`Eq` contract.  `clone` keeps the shape invariant.
-/
namespace Toodee
variable {α : Type}

/-- `[T] == [T]`: equal lengths, and at every index the two elements compare equal -/
theorem TD.sliceEq_iff (eqα : α → α → Bool) (xs ys : List α) :
    TD.sliceEq eqα xs ys = true ↔
      xs.length = ys.length ∧ ∀ i < xs.length, ∃ x y, xs[i]? = some x ∧ ys[i]? = some y ∧ eqα x y = true := by
  induction xs generalizing ys with
  | nil => cases ys with
    | nil => exact ⟨fun _ => ⟨rfl, nofun⟩, fun _ => rfl⟩
    | cons y ys => exact ⟨nofun, fun h => nomatch h.1⟩
  | cons x xs ih => cases ys with
    | nil => exact ⟨nofun, fun h => nomatch h.1⟩
    | cons y ys =>
      rw [TD.sliceEq, Bool.and_eq_true, ih, List.length_cons, List.length_cons, Nat.succ_inj]
      constructor
      · rintro ⟨h0, hl, hi⟩
        refine ⟨hl, fun i h => ?_⟩
        cases i with
        | zero => exact ⟨x, y, rfl, rfl, h0⟩
        | succ i => exact hi i (Nat.lt_of_succ_lt_succ h)
      · rintro ⟨hl, hi⟩
        obtain ⟨_, _, ⟨⟩, ⟨⟩, he⟩ := hi 0 (Nat.zero_lt_succ _)
        exact ⟨he, hl, fun i h => hi (i + 1) (Nat.succ_lt_succ h)⟩

theorem TD.sliceEq_lawful (eqα : α → α → Bool) (heq : ∀ x y, eqα x y = true ↔ x = y) (xs ys : List α) :
    TD.sliceEq eqα xs ys = true ↔ xs = ys := by
  induction xs generalizing ys with
  | nil => cases ys with
    | nil => exact ⟨fun _ => rfl, fun _ => rfl⟩
    | cons y ys => exact ⟨nofun, nofun⟩
  | cons x xs ih => cases ys with
    | nil => exact ⟨nofun, nofun⟩
    | cons y ys => rw [TD.sliceEq, Bool.and_eq_true, ih, heq, List.cons.injEq]

/-- `hα x` = what `x.hash` writes: slices that compare equal feed the hasher the same sequence -/
theorem TD.sliceEq_flatMap (eqα : α → α → Bool) (hα : α → List Nat) (hc : ∀ x y, eqα x y = true → hα x = hα y)
    (xs ys : List α) (h : TD.sliceEq eqα xs ys = true) : xs.flatMap hα = ys.flatMap hα := by
  induction xs generalizing ys with
  | nil => cases ys with
    | nil => rfl
    | cons y ys => cases h
  | cons x xs ih => cases ys with
    | nil => cases h
    | cons y ys =>
      rw [TD.sliceEq, Bool.and_eq_true] at h
      rw [List.flatMap_cons, List.flatMap_cons, hc x y h.1, ih ys h.2]

theorem TD.sliceEq_map_clone (eqα : α → α → Bool) (cl : α → α) (h : ∀ x, eqα (cl x) x = true) (xs : List α) :
    TD.sliceEq eqα (xs.map cl) xs = true := by
  induction xs with
  | nil => rfl
  | cons x xs ih => rw [List.map_cons, TD.sliceEq, h x, ih]; rfl

theorem TD.Inv.clone {t : TD α} (h : t.Inv) (cl : α → α) : (t.clone cl).Inv :=
  ⟨(List.length_map cl).trans h.len, h.zero, (List.length_map (as := t.data) cl).symm ▸ h.word⟩

end Toodee
