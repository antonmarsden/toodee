import Toodee.Proofs.IterLemmas
/-
  Lemmas about `FlattenExact` over the row cursor (`Cells`/`CellsMut`, Impl/Flatten.lean).  A cursor state stands for the list
  `front ++ rows ++ back` of positions; each operation is followed through its three regions (near window, whole rows, far
  window) and compared with the ideal operation on that list.  All four operations are treated as `nth`/`nth_back`
  (`next` is `nth 0`).  The back operations mirror the front ones (`front`/`back`, `nth`/`nth_back`, `drop`/`take` exchanged)
  and are proved by the same steps written out again: `Flat.nthBack` is not `Flat.nth` on a mirrored state (a mirrored
  `Rows` cursor is not a `Rows` cursor), so there is no state to reverse, only the lists, and those are handled by
  `Seq.nthBack_append_left/right`.

  Order: positions of a window; namespace `FlatL`, the list side (the
  cells of a list of row windows, an optional window: nothing there is about a cursor, hence not `Flat`); namespace `Flat`,
  the cursor: slice operations, `abs`, the region lemmas, then `next`, `next_back`, `nth`, `nth_back`, `size_hint`, `collect`,
  the fresh cursor `Flat.new`, and `step`/`run`.
-/
namespace Toodee

theorem Win.positions_length (w : Win) : w.positions.length = w.len := by simp [Win.positions]

theorem Win.positions_getElem? (w : Win) (i : Nat) :
    w.positions[i]? = if i < w.len then some (w.off + i) else none :=
  map_range_getElem? _ _ _

theorem Win.positions_nil {w : Win} (h : w.len = 0) : w.positions = [] := by simp [Win.positions, h]

theorem Win.positions_drop (w : Win) (j : Nat) :
    w.positions.drop j = (⟨w.off + j, w.len - j⟩ : Win).positions := by
  simp only [Win.positions, map_range_drop, Nat.add_assoc, Nat.add_comm j]

theorem Win.positions_take (w : Win) (j : Nat) (hj : j ≤ w.len) :
    w.positions.take j = (⟨w.off, j⟩ : Win).positions := by
  simp only [Win.positions, map_range_take, Nat.min_eq_left hj]

namespace FlatL

/-- the cells of a list of row windows, in order -/
def cellsOf (L : List Win) : List Nat := (L.map Win.positions).flatten

@[simp] theorem cellsOf_nil : cellsOf [] = [] := rfl
@[simp] theorem cellsOf_cons (w : Win) (L : List Win) : cellsOf (w :: L) = w.positions ++ cellsOf L := by
  simp [cellsOf]
@[simp] theorem cellsOf_append (L M : List Win) : cellsOf (L ++ M) = cellsOf L ++ cellsOf M := by
  simp [cellsOf]

theorem cellsOf_length (L : List Win) (c : Nat) (hL : ∀ w ∈ L, w.len = c) :
    (cellsOf L).length = L.length * c := by
  rw [cellsOf, flatten_length_uniform c _ fun r hr => ?_, List.length_map]
  obtain ⟨w, hw, rfl⟩ := List.mem_map.1 hr
  rw [Win.positions_length, hL w hw]

theorem cellsOf_reverse (L : List Win) :
    (cellsOf L).reverse = ((L.reverse).map fun w => w.positions.reverse).flatten := by
  induction L with
  | nil => simp
  | cons w L ih => simp [ih]

theorem cellsOf_abs_length {it : Rows} {k n : Nat} (h : it.WF k n) : (cellsOf (it.abs k)).length = k * it.cols := by
  rw [cellsOf_length _ _ fun w hw => (h.abs_inside w hw).2, Rows.abs_length]

theorem cells_split {L : List Win} {p : Nat} {inner : Win} (hp : L[p]? = some inner) :
    cellsOf L = cellsOf (L.take p) ++ (inner.positions ++ cellsOf (L.drop (p + 1))) := by
  obtain ⟨hlt, rfl⟩ := List.getElem?_eq_some_iff.1 hp
  rw [← cellsOf_cons, ← List.drop_eq_getElem_cons hlt, ← cellsOf_append, List.take_append_drop]

/-- request `q * c + r` into rows of `c` cells falls at `r` in row `q` -/
theorem nth_cells {L : List Win} {c q r : Nat} {inner : Win} (hL : ∀ w ∈ L, w.len = c) (hq : L[q]? = some inner)
    (hr : r < c) (Y : List Nat) :
    Seq.nth (cellsOf L ++ Y) (q * c + r) =
      ((Seq.nth inner.positions r).1, (Seq.nth inner.positions r).2 ++ (cellsOf (L.drop (q + 1)) ++ Y)) := by
  obtain ⟨hlt, _⟩ := List.getElem?_eq_some_iff.1 hq
  have hA : (cellsOf (L.take q)).length = q * c := by
    rw [cellsOf_length _ c fun w hw => hL w (List.mem_of_mem_take hw), List.length_take, Nat.min_eq_left (Nat.le_of_lt hlt)]
  rw [cells_split hq, List.append_assoc, List.append_assoc, Seq.nth_append_right _ _ (by omega), hA, Nat.add_sub_cancel_left,
    Seq.nth_append_left _ _ (by rw [Win.positions_length, hL _ (List.mem_of_getElem? hq)]; exact hr)]

/-- the same from the back: request `q * c + r` falls at `r` from the end of the `q`-th row from the end -/
theorem nthBack_cells {L : List Win} {c q r : Nat} {inner : Win} (hL : ∀ w ∈ L, w.len = c) (hqL : q < L.length)
    (hq : L[L.length - (q + 1)]? = some inner) (hr : r < c) (Y : List Nat) :
    Seq.nthBack (Y ++ cellsOf L) (q * c + r) =
      ((Seq.nthBack inner.positions r).1,
        Y ++ cellsOf (L.take (L.length - (q + 1))) ++ (Seq.nthBack inner.positions r).2) := by
  have hD : (cellsOf (L.drop (L.length - (q + 1) + 1))).length = q * c := by
    rw [cellsOf_length _ c fun w hw => hL w (List.mem_of_mem_drop hw), List.length_drop]
    congr 1; omega
  rw [cells_split hq, ← List.append_assoc, ← List.append_assoc, Seq.nthBack_append_left _ _ (by omega), hD,
    Nat.add_sub_cancel_left, Seq.nthBack_append_right _ _ (by rw [Win.positions_length, hL _ (List.mem_of_getElem? hq)]; exact hr)]

@[simp] theorem optPositions_some (w : Win) : optPositions (some w) = w.positions := rfl
@[simp] theorem optPositions_none : optPositions none = [] := rfl
@[simp] theorem optLen_some (w : Win) : optLen (some w) = w.len := rfl
@[simp] theorem optLen_none : optLen none = 0 := rfl

theorem optPositions_length (o : Option Win) : (optPositions o).length = optLen o := by
  cases o <;> simp [Win.positions_length]

theorem optPositions_nil {o : Option Win} (h : optLen o = 0) : optPositions o = [] := by
  cases o with
  | none => rfl
  | some w => exact Win.positions_nil h

theorem exists_of_optLen_ne_zero {o : Option Win} (h : optLen o ≠ 0) : ∃ w, o = some w ∧ w.len ≠ 0 := by
  cases o with
  | none => exact absurd rfl h
  | some w => exact ⟨w, rfl, h⟩

end FlatL

namespace Flat
open FlatL

/-- `p` is what a `slice::Iter` operation on the window `w` may return when the ideal operation on its positions returns
    `ideal`: the same item, and a window left over that stands for the ideal remainder and lies inside `w` (the last is what
    keeps `Flat.WF.front` / `.back` for the window left over) -/
structure SliceRes (ideal : Option Nat × List Nat) (w : Win) (p : Option Nat × Win) : Prop where
  item : p.1 = ideal.1
  rest : p.2.positions = ideal.2
  inside : p.2.off + p.2.len ≤ w.off + w.len

theorem slice_nth (r : Nat) (w : Win) : SliceRes (Seq.nth w.positions r) w (SliceIter.nth w r) := by
  rw [Seq.nth, SliceIter.nth, Win.positions_getElem?, Win.positions_drop]
  by_cases hr : r < w.len
  · rw [if_pos hr, if_pos hr]
    exact ⟨rfl, by rw [Nat.add_assoc, Nat.sub_sub], by show w.off + r + 1 + (w.len - r - 1) ≤ _; omega⟩
  · rw [if_neg hr, if_neg hr]
    exact ⟨rfl, by rw [Win.positions_nil rfl, Win.positions_nil (Nat.sub_eq_zero_of_le (Nat.le_succ_of_le (Nat.le_of_not_lt hr)))],
      Nat.le_refl _⟩

theorem slice_nthBack (r : Nat) (w : Win) : SliceRes (Seq.nthBack w.positions r) w (SliceIter.nthBack w r) := by
  rw [Seq.nthBack, Win.positions_length, SliceIter.nthBack, Nat.sub_sub, Nat.add_comm 1]
  by_cases hr : r < w.len
  · rw [if_pos hr, if_pos hr]
    exact ⟨by rw [Win.positions_getElem?, if_pos (Nat.sub_lt (Nat.lt_of_le_of_lt (Nat.zero_le r) hr) (Nat.succ_pos r))],
      (Win.positions_take _ _ (Nat.sub_le _ _)).symm, Nat.add_le_add_left (Nat.sub_le _ _) _⟩
  · rw [if_neg hr, if_neg hr, Nat.sub_eq_zero_of_le (Nat.le_succ_of_le (Nat.le_of_not_lt hr))]
    exact ⟨rfl, Win.positions_nil rfl, Nat.le_add_right _ _⟩

/-- `next` is `nth 0` -/
theorem slice_next (w : Win) : SliceRes (Seq.nth w.positions 0) w (SliceIter.next w) := by
  by_cases hl : w.len = 0
  · rw [SliceIter.next, if_pos hl, Win.positions_nil hl]
    exact ⟨rfl, Win.positions_nil hl, Nat.le_refl _⟩
  · have h := slice_nth 0 w
    rw [SliceIter.nth, if_pos (Nat.pos_of_ne_zero hl)] at h
    rw [SliceIter.next, if_neg hl]
    exact h

/-- `next_back` is `nth_back 0` -/
theorem slice_nextBack (w : Win) : SliceRes (Seq.nthBack w.positions 0) w (SliceIter.nextBack w) := by
  by_cases hl : w.len = 0
  · rw [SliceIter.nextBack, if_pos hl, Win.positions_nil hl, Seq.nthBack_nil]
    exact ⟨rfl, Win.positions_nil hl, Nat.le_refl _⟩
  · have h := slice_nthBack 0 w
    rw [SliceIter.nthBack, if_pos (Nat.pos_of_ne_zero hl)] at h
    rw [SliceIter.nextBack, if_neg hl]
    exact h

theorem abs_def (s : Flat) (k : Nat) :
    s.abs k = optPositions s.front ++ cellsOf (s.iter.abs k) ++ optPositions s.back := rfl

theorem abs_of_front_empty {s : Flat} (k : Nat) (h : optLen s.front = 0) :
    s.abs k = cellsOf (s.iter.abs k) ++ optPositions s.back := by
  rw [abs_def, optPositions_nil h]; rfl

theorem abs_of_back_empty {s : Flat} (k : Nat) (h : optLen s.back = 0) :
    s.abs k = optPositions s.front ++ cellsOf (s.iter.abs k) := by
  rw [abs_def, optPositions_nil h, List.append_nil]

theorem abs_length {s : Flat} {k n : Nat} (h : s.iter.WF k n) :
    (s.abs k).length = optLen s.front + k * s.iter.cols + optLen s.back := by
  simp only [abs_def, List.length_append, optPositions_length, cellsOf_abs_length h]

/-- `total` and `cols_zero` of `Flat.WF` only bound the number of cells left: a state that stands for a list `l` no longer
    than what a well-formed state stands for satisfies them too.  The hypothesis `e` is handed back so that the result is the
    second and third part of `Lands`. -/
theorem WF.of_abs_le {s s' : Flat} {k k' n : Nat} {l : List Nat} (h : s.WF k n) (hr : s'.iter.WF k' n)
    (hc : s'.iter.cols = s.iter.cols) (hf : ∀ w, s'.front = some w → w.off + w.len ≤ n)
    (hb : ∀ w, s'.back = some w → w.off + w.len ≤ n) (hl : l.length ≤ (s.abs k).length) (e : s'.abs k' = l) :
    s'.WF k' n ∧ s'.abs k' = l := by
  rw [← e, abs_length hr, abs_length h.rows, hc] at hl
  refine ⟨⟨hr, hf, hb, by rw [hc]; exact Nat.le_trans hl h.total, fun h0 => ?_⟩, e⟩
  rw [hc] at h0
  have := h.cols_zero h0
  rw [h0, Nat.mul_zero, Nat.mul_zero] at hl
  omega

/-- a slice operation on the window at the far end, if there is one -/
def optOp (op : Win → Option Nat × Win) : Option Win → Option Nat × Option Win
  | none => (none, none)
  | some w => ((op w).1, some (op w).2)

/-- `optOp op` does on the far window what the ideal operation `f` (which yields nothing on the empty list) does on its
    positions, `optPositions o`, and the window it leaves stays inside the buffer -/
theorem optOp_spec {op : Win → Option Nat × Win} {f : List Nat → Option Nat × List Nat}
    (h : ∀ w, SliceRes (f w.positions) w (op w))
    (hnil : f [] = (none, [])) {n : Nat} {o : Option Win} (ho : ∀ w, o = some w → w.off + w.len ≤ n) :
    (optOp op o).1 = (f (optPositions o)).1 ∧ optPositions (optOp op o).2 = (f (optPositions o)).2 ∧
      ∀ w, (optOp op o).2 = some w → w.off + w.len ≤ n := by
  cases o with
  | none => simp [optOp, hnil]
  | some w =>
    refine ⟨(h w).item, (h w).rest, fun w' hw' => ?_⟩
    cases hw'
    exact Nat.le_trans (h w).inside (ho w rfl)

/-- where the ideal sequence answers `ideal.1` and keeps `ideal.2`, the model answered `x` and moved to the state `s'`, which
    is well-formed with `k'` rows left and stands for what is kept -/
def Lands (n : Nat) (ideal : Option Nat × List Nat) (x : Option Nat) (s' : Flat) (k' : Nat) : Prop :=
  x = ideal.1 ∧ s'.WF k' n ∧ s'.abs k' = ideal.2

theorem Lands.spec {n k' : Nat} {ideal : Option Nat × List Nat} {x : Option Nat} {s' : Flat} (h : Lands n ideal x s' k')
    {res : Res (Option Nat × Flat)} (e : res = .ok (x, s')) :
    ∃ s' k', res = .ok (ideal.1, s') ∧ s'.WF k' n ∧ s'.abs k' = ideal.2 :=
  ⟨s', k', h.1 ▸ e, h.2⟩

/-! Where a request falls: the near window, a whole row, the far window.  Seen from the front (`next`, `nth`): request `j`
    into `front ++ rows ++ back`.  Each lemma takes what the slice operation returned (`p`: the item and the window left over) and
    says that the item is the ideal answer and that the new state is well-formed and stands for the ideal remainder.  The three
    `*_back` lemmas say the same seen from the back (`next_back`, `nth_back`). -/

theorem WF.front_region {s : Flat} {k n : Nat} (h : s.WF k n) {w : Win} (hf : s.front = some w) {j : Nat}
    (hj : j < w.len) {p : Option Nat × Win} (hs : SliceRes (Seq.nth w.positions j) w p) :
    Lands n (Seq.nth (s.abs k) j) p.1 { s with front := some p.2 } k := by
  have hval := Seq.nth_append_left w.positions (cellsOf (s.iter.abs k) ++ optPositions s.back)
    (by rw [Win.positions_length]; exact hj)
  rw [← hs.item, ← hs.rest, ← optPositions_some, ← hf, ← List.append_assoc, ← abs_def] at hval
  refine ⟨by rw [hval], h.of_abs_le h.rows rfl ?_ h.back (Seq.nth_length_le _ _) (by rw [hval, abs_def, List.append_assoc]; rfl)⟩
  intro w'' hw''; cases hw''; exact Nat.le_trans hs.inside (h.front w hf)

theorem WF.row_region {s : Flat} {k n : Nat} (h : s.WF k n) (hF : optLen s.front = 0) {q r : Nat} (hr : r < s.iter.cols)
    {inner : Win} (hq : (s.iter.abs k)[q]? = some inner) {it' : Rows} {k' : Nat}
    (hit : it'.Follows s.iter k' n ((s.iter.abs k).drop (q + 1))) {p : Option Nat × Win}
    (hs : SliceRes (Seq.nth inner.positions r) inner p) :
    Lands n (Seq.nth (s.abs k) (q * s.iter.cols + r)) p.1 { s with iter := it', front := some p.2 } k' := by
  have hval := nth_cells (fun w hw => (h.rows.abs_inside w hw).2) hq hr (optPositions s.back)
  rw [← abs_of_front_empty k hF, ← hs.item, ← hs.rest, ← hit.abs] at hval
  refine ⟨by rw [hval], h.of_abs_le hit.wf hit.cols ?_ h.back (Seq.nth_length_le _ _) (by rw [hval, abs_def, List.append_assoc]; rfl)⟩
  intro w hw; cases hw
  exact Nat.le_trans hs.inside (h.rows.abs_inside inner (List.mem_of_getElem? hq)).1

theorem WF.far_region {s : Flat} {k n : Nat} (h : s.WF k n) (hF : optLen s.front = 0) {j : Nat} (hj : k * s.iter.cols ≤ j)
    {it' : Rows} {k' : Nat} (hit : it'.Follows s.iter k' n [])
    {op : Win → Option Nat × Win} (hop : ∀ w, SliceRes (Seq.nth w.positions (j - k * s.iter.cols)) w (op w)) :
    Lands n (Seq.nth (s.abs k) j) (optOp op s.back).1 { s with iter := it', back := (optOp op s.back).2 } k' := by
  obtain ⟨o1, o2, o3⟩ := optOp_spec (f := (Seq.nth · _)) hop rfl h.back
  have hval := Seq.nth_append_right (cellsOf (s.iter.abs k)) (optPositions s.back)
    (by rw [cellsOf_abs_length h.rows]; exact hj)
  rw [cellsOf_abs_length h.rows, ← abs_of_front_empty k hF] at hval
  refine ⟨by rw [hval]; exact o1, h.of_abs_le hit.wf hit.cols h.front o3 (Seq.nth_length_le _ _) ?_⟩
  rw [hval, ← o2, abs_def, optPositions_nil hF, hit.abs]; rfl

theorem WF.back_region {s : Flat} {k n : Nat} (h : s.WF k n) {w : Win} (hb : s.back = some w) {j : Nat}
    (hj : j < w.len) {p : Option Nat × Win} (hs : SliceRes (Seq.nthBack w.positions j) w p) :
    Lands n (Seq.nthBack (s.abs k) j) p.1 { s with back := some p.2 } k := by
  have hval := Seq.nthBack_append_right (optPositions s.front ++ cellsOf (s.iter.abs k)) w.positions
    (by rw [Win.positions_length]; exact hj)
  rw [← hs.item, ← hs.rest, ← optPositions_some, ← hb, ← abs_def] at hval
  refine ⟨by rw [hval], h.of_abs_le h.rows rfl h.front ?_ (Seq.nthBack_length_le _ _) (by rw [hval]; rfl)⟩
  intro w'' hw''; cases hw''; exact Nat.le_trans hs.inside (h.back w hb)

theorem WF.row_region_back {s : Flat} {k n : Nat} (h : s.WF k n) (hB : optLen s.back = 0) {q r : Nat} (hq : q < k)
    (hr : r < s.iter.cols) {inner : Win} (hx : (s.iter.abs k)[k - (q + 1)]? = some inner) {it' : Rows} {k' : Nat}
    (hit : it'.Follows s.iter k' n ((s.iter.abs k).take (k - (q + 1)))) {p : Option Nat × Win} (hs : SliceRes (Seq.nthBack inner.positions r) inner p) :
    Lands n (Seq.nthBack (s.abs k) (q * s.iter.cols + r)) p.1 { s with iter := it', back := some p.2 } k' := by
  have hval := nthBack_cells (fun w hw => (h.rows.abs_inside w hw).2) (by rw [Rows.abs_length]; exact hq)
    (by rw [Rows.abs_length]; exact hx) hr (optPositions s.front)
  rw [Rows.abs_length, ← abs_of_back_empty k hB, ← hs.item, ← hs.rest, ← hit.abs] at hval
  refine ⟨by rw [hval], h.of_abs_le hit.wf hit.cols h.front ?_ (Seq.nthBack_length_le _ _) (by rw [hval]; rfl)⟩
  intro w hw; cases hw
  exact Nat.le_trans hs.inside (h.rows.abs_inside inner (List.mem_of_getElem? hx)).1

theorem WF.far_region_back {s : Flat} {k n : Nat} (h : s.WF k n) (hB : optLen s.back = 0) {j : Nat}
    (hj : k * s.iter.cols ≤ j) {it' : Rows} {k' : Nat} (hit : it'.Follows s.iter k' n [])
    {op : Win → Option Nat × Win}
    (hop : ∀ w, SliceRes (Seq.nthBack w.positions (j - k * s.iter.cols)) w (op w)) :
    Lands n (Seq.nthBack (s.abs k) j) (optOp op s.front).1 { s with iter := it', front := (optOp op s.front).2 } k' := by
  obtain ⟨o1, o2, o3⟩ := optOp_spec (f := (Seq.nthBack · _)) hop (Seq.nthBack_nil _) h.front
  have hval := Seq.nthBack_append_left (optPositions s.front) (cellsOf (s.iter.abs k))
    (by rw [cellsOf_abs_length h.rows]; exact hj)
  rw [cellsOf_abs_length h.rows, ← abs_of_back_empty k hB] at hval
  refine ⟨by rw [hval]; exact o1, h.of_abs_le hit.wf hit.cols o3 h.back (Seq.nthBack_length_le _ _) ?_⟩
  rw [hval, ← o2]; simp only [abs_def, optPositions_nil hB, hit.abs, cellsOf_nil, List.append_nil]

theorem next_near {s : Flat} {w : Win} (fuel : Nat) (hf : s.front = some w) (hl : w.len ≠ 0) :
    s.next (fuel + 1) = .ok ((SliceIter.next w).1, { s with front := some (SliceIter.next w).2 }) := by
  simp [Flat.next, hf, SliceIter.next, hl]

theorem next_rows {s : Flat} (fuel : Nat) (hF : optLen s.front = 0) :
    s.next (fuel + 1) = s.iter.next >>= fun p => match p.1 with
      | none => pure ((optOp SliceIter.next s.back).1, { s with iter := p.2, back := (optOp SliceIter.next s.back).2 })
      | some inner => Flat.next fuel { s with iter := p.2, front := some inner } := by
  obtain ⟨it, fr, bk⟩ := s
  cases fr with
  | none => cases bk <;> rfl
  | some w =>
    have hl : w.len = 0 := hF
    cases bk <;> simp only [Flat.next, SliceIter.next, hl] <;> rfl

/-- the `loop` of `next` runs at most twice: once to open the next row (or to turn to the back window), once to read from it -/
theorem next_spec {s : Flat} {k n : Nat} (h : s.WF k n) {fuel : Nat} (hfuel : 2 ≤ fuel) :
    ∃ s' k', s.next fuel = .ok ((Seq.next (s.abs k)).1, s') ∧ s'.WF k' n ∧ s'.abs k' = (Seq.next (s.abs k)).2 := by
  obtain ⟨f, rfl⟩ := Nat.exists_eq_add_of_le' hfuel
  rw [Seq.next_eq_nth]
  by_cases hF : optLen s.front = 0
  · obtain ⟨it', hn, hit⟩ := Rows.next_spec h.rows
    rw [next_rows _ hF, hn, ok_bind]
    cases k with
    | zero =>
      exact (h.far_region hF (j := 0) (Nat.le_of_eq (Nat.zero_mul _)) hit (op := SliceIter.next)
        (by rw [Nat.zero_mul]; exact slice_next)).spec rfl
    | succ k =>
      have hcp := h.rows.cols_pos (Nat.succ_ne_zero k)
      have hx := Rows.abs_getElem? s.iter (k + 1) 0
      rw [if_pos (Nat.succ_pos k)] at hx
      rw [← List.drop_one] at hit
      have hr := h.row_region hF (r := 0) hcp hx hit (slice_next _)
      rw [Nat.zero_mul, Nat.add_zero] at hr
      rw [List.head?_eq_getElem?, hx]
      exact hr.spec (next_near f rfl (Nat.ne_of_gt hcp))
  · obtain ⟨w, hf, hl⟩ := exists_of_optLen_ne_zero hF
    exact (h.front_region hf (Nat.pos_of_ne_zero hl) (slice_next w)).spec (next_near _ hf hl)

theorem nextBack_near {m : Mode} {s : Flat} {w : Win} (fuel : Nat) (hb : s.back = some w) (hl : w.len ≠ 0) :
    s.nextBack m (fuel + 1) = .ok ((SliceIter.nextBack w).1, { s with back := some (SliceIter.nextBack w).2 }) := by
  simp [Flat.nextBack, hb, SliceIter.nextBack, hl]

theorem nextBack_rows {m : Mode} {s : Flat} (fuel : Nat) (hB : optLen s.back = 0) :
    s.nextBack m (fuel + 1) = s.iter.nextBack m >>= fun p => match p.1 with
      | none => pure ((optOp SliceIter.nextBack s.front).1,
          { s with iter := p.2, front := (optOp SliceIter.nextBack s.front).2 })
      | some inner => Flat.nextBack m fuel { s with iter := p.2, back := some inner } := by
  obtain ⟨it, fr, bk⟩ := s
  cases bk with
  | none => cases fr <;> rfl
  | some w =>
    have hl : w.len = 0 := hB
    cases fr <;> simp only [Flat.nextBack, SliceIter.nextBack, hl] <;> rfl

theorem nextBack_spec {s : Flat} {k n : Nat} (h : s.WF k n) (m : Mode) {fuel : Nat} (hfuel : 2 ≤ fuel) :
    ∃ s' k', s.nextBack m fuel = .ok ((Seq.nextBack (s.abs k)).1, s') ∧ s'.WF k' n ∧
      s'.abs k' = (Seq.nextBack (s.abs k)).2 := by
  obtain ⟨f, rfl⟩ := Nat.exists_eq_add_of_le' hfuel
  rw [Seq.nextBack_eq_nthBack]
  by_cases hB : optLen s.back = 0
  · obtain ⟨it', hn, hit⟩ := Rows.nextBack_spec h.rows m
    rw [nextBack_rows _ hB, hn, ok_bind]
    cases k with
    | zero =>
      exact (h.far_region_back hB (j := 0) (Nat.le_of_eq (Nat.zero_mul _)) hit (op := SliceIter.nextBack)
        (by rw [Nat.zero_mul]; exact slice_nextBack)).spec rfl
    | succ k =>
      have hcp := h.rows.cols_pos (Nat.succ_ne_zero k)
      have hx := Rows.abs_getElem? s.iter (k + 1) k
      rw [if_pos (Nat.lt_succ_self k)] at hx
      rw [List.dropLast_eq_take, Rows.abs_length] at hit
      have hr := h.row_region_back hB (r := 0) (Nat.succ_pos k) hcp hx hit (slice_nextBack _)
      rw [Nat.zero_mul, Nat.add_zero] at hr
      rw [List.getLast?_eq_getElem?, Rows.abs_length, Nat.add_sub_cancel, hx]
      exact hr.spec (nextBack_near f rfl (Nat.ne_of_gt hcp))
  · obtain ⟨w, hb, hl⟩ := exists_of_optLen_ne_zero hB
    exact (h.back_region hb (Nat.pos_of_ne_zero hl) (slice_nextBack w)).spec (nextBack_near _ hb hl)

theorem last_spec {s : Flat} {k n : Nat} (h : s.WF k n) (m : Mode) {fuel : Nat} (hfuel : 2 ≤ fuel) :
    s.last m fuel = .ok (s.abs k).getLast? := by
  obtain ⟨s', k', h1, -⟩ := nextBack_spec h m hfuel
  rw [last, h1]; rfl

theorem nth_near {m : Mode} {s : Flat} {w : Win} {j : Nat} (hc : s.iter.cols ≠ 0) (hf : s.front = some w)
    (hj : j < w.len) :
    s.nth m j = .ok ((SliceIter.nth w j).1, { s with front := some (SliceIter.nth w j).2 }) := by
  simp [Flat.nth, hc, hf, hj]

theorem nth_skip {m : Mode} {s : Flat} {w : Win} {j : Nat} (hc : s.iter.cols ≠ 0) (hf : s.front = some w)
    (hj : w.len ≤ j) :
    s.nth m j = ({ s with front := none } : Flat).nth m (j - w.len) := by
  obtain ⟨it, fr, bk⟩ := s
  cases hf
  simp only [Flat.nth, if_neg hc, if_neg (Nat.not_lt.2 hj)]

/-- `nth` once the front window is out of the way: `q` whole rows are skipped, the request falls at `r` in the next row, or
    in the back window when no row is left (`generalizing := false`: otherwise the motive of the `match` mentions `hn`) -/
theorem nth_rows {m : Mode} {s : Flat} {k j q r : Nat} {x : Option Win} {it' : Rows} (hc : s.iter.cols ≠ 0)
    (hf : s.front = none) (hlen : s.iter.sizeHint m = .ok k) (hq : min k (j / s.iter.cols) = q)
    (hn : s.iter.nth m q = .ok (x, it')) (hmul : umul m q s.iter.cols = .ok (q * s.iter.cols))
    (hsub : usub m j (q * s.iter.cols) = .ok r) :
    s.nth m j = match (generalizing := false) x with
      | some inner => if m = .debug ∧ ¬ r < inner.len then throw .panic else
          pure ((SliceIter.nth inner r).1, { s with iter := it', front := some (SliceIter.nth inner r).2 })
      | none => pure ((optOp (SliceIter.nth · r) s.back).1,
          { s with iter := it', back := (optOp (SliceIter.nth · r) s.back).2 }) := by
  obtain ⟨it, fr, bk⟩ := s
  cases hf
  simp only [Flat.nth, if_neg hc, hlen, hq, hn, hmul, hsub, ok_bind]
  cases x with
  | some inner => rfl
  | none => cases bk <;> rfl

/-- Once the near window is out of the way a request `j` is `q * cols + r` with `r < cols`; of the `k` rows left, `min k q` are
    skipped.  What the model computes next, `min k q * cols` and `j` minus it, stays inside a word.  For `q < k` the remainder is
    `r`, below the length `cols` of the row it falls in: this is why `debug_assert!(n < tmp.len())` never fires. -/
theorem request_split {it : Rows} {k n : Nat} (h : it.WF k n) (m : Mode) (hc : it.cols ≠ 0) (j : Nat) :
    ∃ q r, r < it.cols ∧ j = q * it.cols + r ∧
      (q < k → min k (j / it.cols) = q ∧ umul m q it.cols = .ok (q * it.cols) ∧ usub m j (q * it.cols) = .ok r) ∧
      (k ≤ q → min k (j / it.cols) = k ∧ umul m k it.cols = .ok (k * it.cols) ∧
        usub m j (k * it.cols) = .ok (j - k * it.cols) ∧ k * it.cols ≤ j) := by
  have hkn : k * it.cols < WORD := Nat.lt_of_le_of_lt (h.mul_cols_le) h.word
  have hj := (Nat.div_add_mod' j it.cols).symm
  refine ⟨j / it.cols, j % it.cols, Nat.mod_lt _ (Nat.pos_of_ne_zero hc), hj, fun hq => ?_, fun hq => ?_⟩
  · have hle : j / it.cols * it.cols ≤ j := Nat.div_mul_le_self j it.cols
    exact ⟨Nat.min_eq_right (Nat.le_of_lt hq),
      umul_ok m (Nat.lt_of_le_of_lt (Nat.mul_le_mul_right _ (Nat.le_of_lt hq)) hkn),
      (usub_ok m hle).trans (congrArg Except.ok (Nat.sub_eq_of_eq_add' hj))⟩
  · have hkj : k * it.cols ≤ j := Nat.le_trans (Nat.mul_le_mul_right _ hq) (Nat.div_mul_le_self j it.cols)
    exact ⟨Nat.min_eq_left hq, umul_ok m hkn, usub_ok m hkj, hkj⟩

theorem nth_spec_none {s : Flat} {k n : Nat} (h : s.WF k n) (m : Mode) (hc : s.iter.cols ≠ 0)
    (hf : s.front = none) (j : Nat) :
    ∃ s' k', s.nth m j = .ok ((Seq.nth (s.abs k) j).1, s') ∧ s'.WF k' n ∧ s'.abs k' = (Seq.nth (s.abs k) j).2 := by
  have hlen := Rows.sizeHint_spec h.rows m
  have hF : optLen s.front = 0 := by rw [hf]; rfl
  obtain ⟨q, r, hr, hj, hlt, hge⟩ := request_split h.rows m hc j
  by_cases hq : q < k
  · obtain ⟨a1, a2, a3⟩ := hlt hq
    obtain ⟨it', hn, hit⟩ := Rows.nth_spec h.rows m q
    have hx := Rows.abs_getElem? s.iter k q
    rw [if_pos hq] at hx
    rw [hx] at hn
    have hl := h.row_region hF hr hx hit (slice_nth r _)
    rw [← hj] at hl
    exact hl.spec ((nth_rows hc hf hlen a1 hn a2 a3).trans (if_neg fun hd => hd.2 hr))
  · obtain ⟨a1, a2, a3, hkj⟩ := hge (Nat.le_of_not_lt hq)
    obtain ⟨it', hn, hit⟩ := Rows.nth_spec h.rows m k
    rw [Rows.abs_getElem?, if_neg (Nat.lt_irrefl k)] at hn
    rw [List.drop_eq_nil_of_le (by rw [Rows.abs_length]; exact Nat.le_succ k)] at hit
    exact (h.far_region hF hkj hit (slice_nth _)).spec (nth_rows hc hf hlen a1 hn a2 a3)

/-- `cols_zero` is what makes the early return of `nth`/`nth_back` on `num_cols == 0` right: such a state stands for nothing -/
theorem WF.abs_of_cols_zero {s : Flat} {k n : Nat} (h : s.WF k n) (hc : s.iter.cols = 0) : s.abs k = [] := by
  have hk := h.rows.eq_zero_of_cols_zero hc
  rw [abs_def, optPositions_nil (h.cols_zero hc).1, optPositions_nil (h.cols_zero hc).2, hk, Rows.abs_zero]; rfl

theorem nth_spec {s : Flat} {k n : Nat} (h : s.WF k n) (m : Mode) (j : Nat) :
    ∃ s' k', s.nth m j = .ok ((Seq.nth (s.abs k) j).1, s') ∧ s'.WF k' n ∧ s'.abs k' = (Seq.nth (s.abs k) j).2 := by
  by_cases hc : s.iter.cols = 0
  · have hnil := h.abs_of_cols_zero hc
    exact ⟨s, k, by simp [Flat.nth, hc, hnil, Seq.nth], h, by simp [hnil, Seq.nth]⟩
  · cases hf : s.front with
    | none => exact nth_spec_none h m hc hf j
    | some w =>
      by_cases hj : j < w.len
      · exact (h.front_region hf hj (slice_nth j w)).spec (nth_near hc hf hj)
      · -- the request passes the front window: drop it (the state stays well-formed, it stands for a sublist) and ask for
        -- `j - w.len` there
        have hj' := Nat.le_of_not_lt hj
        have hA : s.abs k = w.positions ++ (cellsOf (s.iter.abs k) ++ optPositions s.back) := by
          rw [abs_def, hf, List.append_assoc]; rfl
        have h1 := (h.of_abs_le (s' := { s with front := none }) h.rows rfl (fun _ hw => by cases hw) h.back
          (by rw [hA]; exact (List.sublist_append_right _ _).length_le) rfl).1
        obtain ⟨s', k', e1, e2, e3⟩ := nth_spec_none h1 m hc rfl (j - w.len)
        have hval : Seq.nth (s.abs k) j = Seq.nth (({ s with front := none } : Flat).abs k) (j - w.len) := by
          rw [hA, Seq.nth_append_right _ _ (by rw [Win.positions_length]; exact hj'), Win.positions_length]; rfl
        exact ⟨s', k', by rw [hval, nth_skip hc hf hj']; exact e1, e2, by rw [hval]; exact e3⟩

theorem nthBack_near {m : Mode} {s : Flat} {w : Win} {j : Nat} (hc : s.iter.cols ≠ 0) (hb : s.back = some w)
    (hj : j < w.len) :
    s.nthBack m j = .ok ((SliceIter.nthBack w j).1, { s with back := some (SliceIter.nthBack w j).2 }) := by
  simp [Flat.nthBack, hc, hb, hj]

theorem nthBack_skip {m : Mode} {s : Flat} {w : Win} {j : Nat} (hc : s.iter.cols ≠ 0) (hb : s.back = some w)
    (hj : w.len ≤ j) :
    s.nthBack m j = ({ s with back := none } : Flat).nthBack m (j - w.len) := by
  obtain ⟨it, fr, bk⟩ := s
  cases hb
  simp only [Flat.nthBack, if_neg hc, if_neg (Nat.not_lt.2 hj)]

theorem nthBack_rows {m : Mode} {s : Flat} {k j q r : Nat} {x : Option Win} {it' : Rows} (hc : s.iter.cols ≠ 0)
    (hb : s.back = none) (hlen : s.iter.sizeHint m = .ok k) (hq : min k (j / s.iter.cols) = q)
    (hn : s.iter.nthBack m q = .ok (x, it')) (hmul : umul m q s.iter.cols = .ok (q * s.iter.cols))
    (hsub : usub m j (q * s.iter.cols) = .ok r) :
    s.nthBack m j = match (generalizing := false) x with
      | some inner => if m = .debug ∧ ¬ r < inner.len then throw .panic else
          pure ((SliceIter.nthBack inner r).1, { s with iter := it', back := some (SliceIter.nthBack inner r).2 })
      | none => pure ((optOp (SliceIter.nthBack · r) s.front).1,
          { s with iter := it', front := (optOp (SliceIter.nthBack · r) s.front).2 }) := by
  obtain ⟨it, fr, bk⟩ := s
  cases hb
  simp only [Flat.nthBack, if_neg hc, hlen, hq, hn, hmul, hsub, ok_bind]
  cases x with
  | some inner => rfl
  | none => cases fr <;> rfl

theorem nthBack_spec_none {s : Flat} {k n : Nat} (h : s.WF k n) (m : Mode) (hc : s.iter.cols ≠ 0)
    (hb : s.back = none) (j : Nat) :
    ∃ s' k', s.nthBack m j = .ok ((Seq.nthBack (s.abs k) j).1, s') ∧ s'.WF k' n ∧
      s'.abs k' = (Seq.nthBack (s.abs k) j).2 := by
  have hlen := Rows.sizeHint_spec h.rows m
  have hB : optLen s.back = 0 := by rw [hb]; rfl
  obtain ⟨q, r, hr, hj, hlt, hge⟩ := request_split h.rows m hc j
  by_cases hq : q < k
  · obtain ⟨a1, a2, a3⟩ := hlt hq
    obtain ⟨it', hn, hit⟩ := Rows.nthBack_spec h.rows m q
    have hx := Rows.abs_getElem? s.iter k (k - (q + 1))
    rw [if_pos (Nat.sub_lt (Nat.lt_of_le_of_lt (Nat.zero_le q) hq) (Nat.succ_pos q))] at hx
    rw [Seq.nthBack, Rows.abs_length] at hn hit
    rw [if_pos hq, Nat.sub_sub, Nat.add_comm 1, hx] at hn
    have hl := h.row_region_back hB hq hr hx hit (slice_nthBack r _)
    rw [← hj] at hl
    exact hl.spec ((nthBack_rows hc hb hlen a1 hn a2 a3).trans (if_neg fun hd => hd.2 hr))
  · obtain ⟨a1, a2, a3, hkj⟩ := hge (Nat.le_of_not_lt hq)
    obtain ⟨it', hn, hit⟩ := Rows.nthBack_spec h.rows m k
    rw [Seq.nthBack, Rows.abs_length, Nat.sub_eq_zero_of_le (Nat.le_succ k)] at hn hit
    rw [if_neg (Nat.lt_irrefl k)] at hn
    rw [List.take_zero] at hit
    exact (h.far_region_back hB hkj hit (slice_nthBack _)).spec (nthBack_rows hc hb hlen a1 hn a2 a3)

theorem nthBack_spec {s : Flat} {k n : Nat} (h : s.WF k n) (m : Mode) (j : Nat) :
    ∃ s' k', s.nthBack m j = .ok ((Seq.nthBack (s.abs k) j).1, s') ∧ s'.WF k' n ∧
      s'.abs k' = (Seq.nthBack (s.abs k) j).2 := by
  by_cases hc : s.iter.cols = 0
  · have hnil := h.abs_of_cols_zero hc
    exact ⟨s, k, by simp [Flat.nthBack, hc, hnil, Seq.nthBack], h, by simp [hnil, Seq.nthBack]⟩
  · cases hb : s.back with
    | none => exact nthBack_spec_none h m hc hb j
    | some w =>
      by_cases hj : j < w.len
      · exact (h.back_region hb hj (slice_nthBack j w)).spec (nthBack_near hc hb hj)
      · -- the request passes the back window: drop it and ask for `j - w.len` in what is left
        have hj' := Nat.le_of_not_lt hj
        have hA : s.abs k = optPositions s.front ++ cellsOf (s.iter.abs k) ++ w.positions := by rw [abs_def, hb]; rfl
        have h1 := (h.of_abs_le (s' := { s with back := none }) h.rows rfl h.front (fun _ hw => by cases hw)
          (by rw [hA]; exact (List.sublist_append_left _ _).length_le) (List.append_nil _)).1
        obtain ⟨s', k', e1, e2, e3⟩ := nthBack_spec_none h1 m hc rfl (j - w.len)
        have hval : Seq.nthBack (s.abs k) j = Seq.nthBack (({ s with back := none } : Flat).abs k) (j - w.len) := by
          rw [hA, Seq.nthBack_append_left _ _ (by rw [Win.positions_length]; exact hj'), Win.positions_length]
          exact congrArg (Seq.nthBack · _) (List.append_nil _).symm
        exact ⟨s', k', by rw [hval, nthBack_skip hc hb hj']; exact e1, e2, by rw [hval]; exact e3⟩

/-- `total` is what keeps `cols * rows + front + back` inside a word -/
theorem sizeHint_spec {s : Flat} {k n : Nat} (h : s.WF k n) (m : Mode) :
    s.sizeHint m = .ok (s.abs k).length := by
  have h1 : s.iter.cols * k + optLen s.front + optLen s.back = optLen s.front + k * s.iter.cols + optLen s.back := by
    rw [Nat.mul_comm, Nat.add_comm (k * _)]
  have h2 : s.iter.cols * k + optLen s.front + optLen s.back < WORD := h1 ▸ Nat.lt_of_le_of_lt h.total h.rows.word
  rw [abs_length h.rows, Flat.sizeHint, Rows.sizeHint_spec h.rows m, ok_bind,
    umul_ok m (Nat.lt_of_le_of_lt (Nat.le_trans (Nat.le_add_right _ _) (Nat.le_add_right _ _)) h2), ok_bind]
  show (uadd m _ (optLen s.front) >>= fun len => uadd m len (optLen s.back)) = _
  rw [uadd_ok m (Nat.lt_of_le_of_lt (Nat.le_add_right _ _) h2), ok_bind, uadd_ok m h2]
  exact congrArg Except.ok h1

theorem collect_spec {s : Flat} {k n : Nat} (h : s.WF k n) (fuel : Nat) (hfuel : k < fuel) :
    s.collect fuel = .ok (s.abs k) := by
  rw [Flat.collect, Rows.collect_spec h.rows fuel hfuel, Flat.abs]
  cases s.front <;> cases s.back <;> rfl

theorem collectBack_spec {s : Flat} {k n : Nat} (h : s.WF k n) (m : Mode) (fuel : Nat) (hfuel : k < fuel) :
    s.collectBack m fuel = .ok (s.abs k).reverse := by
  rw [Flat.collectBack, Rows.collectBack_spec h.rows m fuel hfuel, abs_def]
  simp only [List.reverse_append, cellsOf_reverse, List.append_assoc]
  cases s.front <;> cases s.back <;> rfl

theorem new_WF {it : Rows} {k n : Nat} (h : it.WF k n) : (Flat.new it).WF k n :=
  ⟨h, by simp [Flat.new], by simp [Flat.new], by simpa [Flat.new] using h.mul_cols_le, by simp [Flat.new]⟩

theorem new_abs (it : Rows) (k : Nat) : (Flat.new it).abs k = cellsOf (it.abs k) := by
  simp [abs_def, Flat.new]

theorem new_abs_of_rows {it : Rows} {R C : Nat} {off : Nat → Nat}
    (habs : it.abs R = (List.range R).map fun r => ⟨off r, C⟩) :
    (Flat.new it).abs R = ((List.range R).map fun r => (List.range C).map fun c => off r + c).flatten := by
  rw [new_abs, habs]
  simp [cellsOf, Win.positions, Function.comp_def]

theorem step_spec {s : Flat} {k n : Nat} (h : s.WF k n) (m : Mode) {fuel : Nat} (hfuel : 2 ≤ fuel) (o : Seq.Op) :
    ∃ s' k', s.step m fuel o = .ok ((Seq.step (s.abs k) o).1, s') ∧ s'.WF k' n ∧
      s'.abs k' = (Seq.step (s.abs k) o).2 := by
  cases o with
  | next => exact (next_spec h hfuel).imp fun _ h => h.imp fun _ h => ⟨Seq.item_of_ok h.1, h.2⟩
  | nextBack => exact (nextBack_spec h m hfuel).imp fun _ h => h.imp fun _ h => ⟨Seq.item_of_ok h.1, h.2⟩
  | nth j => exact (nth_spec h m j).imp fun _ h => h.imp fun _ h => ⟨Seq.item_of_ok h.1, h.2⟩
  | nthBack j => exact (nthBack_spec h m j).imp fun _ h => h.imp fun _ h => ⟨Seq.item_of_ok h.1, h.2⟩
  | len => exact ⟨s, k, by show (s.sizeHint m >>= _) = _; rw [sizeHint_spec h m]; rfl, h, rfl⟩

theorem run_spec {s : Flat} {k n : Nat} (h : s.WF k n) (m : Mode) {fuel : Nat} (hfuel : 2 ≤ fuel) (w : List Seq.Op) :
    ∃ s' k', s.run m fuel w = .ok ((Seq.run (s.abs k) w).1, s') ∧ s'.WF k' n ∧
      s'.abs k' = (Seq.run (s.abs k) w).2 := by
  induction w generalizing s k with
  | nil => exact ⟨s, k, rfl, h, rfl⟩
  | cons o os ih =>
    obtain ⟨s1, k1, h1, h2, h3⟩ := step_spec h m hfuel o
    obtain ⟨s2, k2, g1, g2, g3⟩ := ih h2
    refine ⟨s2, k2, ?_, g2, ?_⟩
    · simp only [Flat.run, h1, ok_bind, g1, pure_eq, Seq.run, h3]
    · simp only [Seq.run, g3, h3]

end Flat
end Toodee
