/-
  Base definitions shared by the whole model: build mode, error outcomes, `usize` arithmetic as it is
  compiled in the two build profiles, and slices as *windows* `(off,len)` into a root buffer.

  Model files import nothing outside Lean core so that the driver (`Main.lean`) links as an executable.
-/
namespace Toodee

/-- Build profile. `debug`: `overflow-checks` and `debug-assertions` on. `release`: both off (wrap-around). -/
inductive Mode | debug | release
deriving DecidableEq, Repr

/-- Abnormal outcomes. `panic` = an unwinding panic (assert, checked slice op, overflow in debug, `unwrap`).
    `ub` = an unchecked operation (`get_unchecked*`, `ptr::add/copy/read/write`, `set_len`, `from_raw_parts`)
    whose safety precondition is false.  `fuel` = a fuelled loop of the model ran out of fuel
    (an artefact of the model; proved unreachable). -/
inductive Err | panic | ub | fuel
deriving DecidableEq, Repr

/-- `usize::MAX + 1` on the 64-bit targets modelled. -/
def WORD : Nat := 18446744073709551616

abbrev Res := Except Err

@[simp] theorem ok_bind {α β : Type} (a : α) (f : α → Res β) : (Except.ok a >>= f) = f a := rfl
@[simp] theorem err_bind {α β : Type} (e : Err) (f : α → Res β) :
    ((Except.error e : Res α) >>= f) = Except.error e := rfl
@[simp] theorem pure_eq {α : Type} (a : α) : (pure a : Res α) = .ok a := rfl
@[simp] theorem throw_eq {α : Type} (e : Err) : (throw e : Res α) = .error e := rfl

/-- A guard in front of the rest of a body: the left side is what `do if ¬ c then throw e; rest` elaborates to
    (`k` is the join point holding `rest`). -/
theorem guard_bind {β : Type} (c : Prop) [Decidable c] (e : Err) (k : Unit → Res β) :
    (if ¬ c then (throw e >>= k) else k ()) = if c then k () else .error e := by
  by_cases h : c <;> simp [h]

theorem Res.ite_bind {β γ : Type} (c : Prop) [Decidable c] (x y : Res β) (f : β → Res γ) :
    ((if c then x else y) >>= f) = if c then x >>= f else y >>= f := by
  split <;> rfl

theorem ite_ite_same_else {β : Type} (p q : Prop) [Decidable p] [Decidable q] (a b : β) :
    (if p then (if q then a else b) else b) = if p ∧ q then a else b := by
  by_cases hp : p <;> simp [hp]

/-- an outcome as one equation ⟷ its accepting and its rejecting half -/
theorem Res.eq_ite_iff {β : Type} {c : Prop} [Decidable c] {x a b : Res β} :
    x = (if c then a else b) ↔ (c → x = a) ∧ (¬ c → x = b) := by
  by_cases hc : c
  · rw [if_pos hc]; exact ⟨fun h => ⟨fun _ => h, fun hn => absurd hc hn⟩, fun h => h.1 hc⟩
  · rw [if_neg hc]; exact ⟨fun h => ⟨fun hc' => absurd hc' hc, fun _ => h⟩, fun h => h.2 hc⟩

/-- `a * b` on `usize` as compiled: debug panics on overflow, release wraps. -/
def umul (m : Mode) (a b : Nat) : Res Nat :=
  if a * b < WORD then pure (a * b)
  else match m with
    | .debug => throw .panic
    | .release => pure (a * b % WORD)

/-- `a + b` on `usize` as compiled. -/
def uadd (m : Mode) (a b : Nat) : Res Nat :=
  if a + b < WORD then pure (a + b)
  else match m with
    | .debug => throw .panic
    | .release => pure ((a + b) % WORD)

/-- `a - b` on `usize` as compiled. -/
def usub (m : Mode) (a b : Nat) : Res Nat :=
  if b ≤ a then pure (a - b)
  else match m with
    | .debug => throw .panic
    | .release => pure (a + WORD - b)

/-- `a / b` on `usize`: "attempt to divide by zero" panics in both profiles. -/
def udiv (a b : Nat) : Res Nat := if b = 0 then throw .panic else pure (a / b)

/-- `a % b` on `usize`: "attempt to calculate the remainder with a divisor of zero" panics in both profiles. -/
def urem (a b : Nat) : Res Nat := if b = 0 then throw .panic else pure (a % b)

/-- `usize::overflowing_mul`. -/
def omul (a b : Nat) : Nat × Bool := (a * b % WORD, decide (WORD ≤ a * b))

/-- `usize::checked_mul`. -/
def cmul (a b : Nat) : Option Nat := if a * b < WORD then some (a * b) else none

/- Of `umul`, `uadd`, `usub`, `udiv`, `urem` only the accepting case has a lemma (`_ok`): no proof follows a branch that overflows
  (debug: panic; release: wrap).  The products whose overflow is an outcome are `omul` and `cmul`, with both cases. -/

theorem umul_ok (m : Mode) {a b : Nat} (h : a * b < WORD) : umul m a b = .ok (a * b) := by
  simp [umul, h]
theorem uadd_ok (m : Mode) {a b : Nat} (h : a + b < WORD) : uadd m a b = .ok (a + b) := by
  simp [uadd, h]
theorem udiv_ok {a b : Nat} (h : b ≠ 0) : udiv a b = .ok (a / b) := by simp [udiv, h]
theorem urem_ok {a b : Nat} (h : b ≠ 0) : urem a b = .ok (a % b) := by simp [urem, h]
theorem usub_ok (m : Mode) {a b : Nat} (h : b ≤ a) : usub m a b = .ok (a - b) := by
  simp [usub, h]

theorem omul_of_lt {a b : Nat} (h : a * b < WORD) : omul a b = (a * b, false) := by
  simp [omul, Nat.mod_eq_of_lt h, Nat.not_le.2 h]

theorem omul_of_ge {a b : Nat} (h : WORD ≤ a * b) : omul a b = (a * b % WORD, true) := by
  simp [omul, h]

theorem cmul_some {a b : Nat} (h : a * b < WORD) : cmul a b = some (a * b) := if_pos h

theorem cmul_none {a b : Nat} (h : WORD ≤ a * b) : cmul a b = none := if_neg (Nat.not_lt.2 h)

/-- A slice `&[T]` / `&mut [T]` borrowed from the root buffer: start position and length.
    The *contents* stay in the root buffer; a window is only an address range.  This is what lets
    "touches no cell outside the view" and "yields disjoint slices" be stated. -/
structure Win where
  off : Nat
  len : Nat
deriving DecidableEq, Repr

namespace Win

/-- `&[]` / `&mut []` (a dangling empty slice). -/
def empty : Win := ⟨0, 0⟩

/-- Positions covered by the window. -/
def positions (w : Win) : List Nat := (List.range w.len).map (w.off + ·)

/-- `slice.split_at(mid)` / `split_at_mut`: panics when `mid > len`. -/
def splitAt (w : Win) (mid : Nat) : Res (Win × Win) :=
  if mid ≤ w.len then pure (⟨w.off, mid⟩, ⟨w.off + mid, w.len - mid⟩) else throw .panic

/-- `slice.get_unchecked(s..)`: UB when `s > len`. -/
def getFrom (w : Win) (s : Nat) : Res Win :=
  if s ≤ w.len then pure ⟨w.off + s, w.len - s⟩ else throw .ub

/-- `slice.get_unchecked(..e)`: UB when `e > len`. -/
def getTo (w : Win) (e : Nat) : Res Win :=
  if e ≤ w.len then pure ⟨w.off, e⟩ else throw .ub

/-- `slice.get_unchecked(s..e)`: UB when `s > e` or `e > len`. -/
def getRange (w : Win) (s e : Nat) : Res Win :=
  if s ≤ e ∧ e ≤ w.len then pure ⟨w.off + s, e - s⟩ else throw .ub

/-- `slice.get_unchecked(i)`: UB when `i ≥ len`.  Returns the absolute position. -/
def getIdx (w : Win) (i : Nat) : Res Nat :=
  if i < w.len then pure (w.off + i) else throw .ub

/-- `&slice[i]` (checked): panics when `i ≥ len`. -/
def index (w : Win) (i : Nat) : Res Nat :=
  if i < w.len then pure (w.off + i) else throw .panic

/-- `&slice[s..e]` (checked): panics when `s > e` or `e > len`. -/
def indexRange (w : Win) (s e : Nat) : Res Win :=
  if s ≤ e ∧ e ≤ w.len then pure ⟨w.off + s, e - s⟩ else throw .panic

/-- `&slice[..e]` (checked). -/
def indexTo (w : Win) (e : Nat) : Res Win :=
  if e ≤ w.len then pure ⟨w.off, e⟩ else throw .panic

variable {w : Win}

theorem splitAt_ok {mid : Nat} (h : mid ≤ w.len) :
    w.splitAt mid = .ok (⟨w.off, mid⟩, ⟨w.off + mid, w.len - mid⟩) := by
  rw [splitAt, if_pos h]; rfl

theorem getFrom_ok {s : Nat} (h : s ≤ w.len) : w.getFrom s = .ok ⟨w.off + s, w.len - s⟩ := by
  simp [getFrom, h]

theorem getTo_ok {e : Nat} (h : e ≤ w.len) : w.getTo e = .ok ⟨w.off, e⟩ := by
  simp [getTo, h]

theorem getRange_ok {s e : Nat} (h1 : s ≤ e) (h2 : e ≤ w.len) : w.getRange s e = .ok ⟨w.off + s, e - s⟩ := by
  simp [getRange, h1, h2]

theorem indexRange_ok {s e : Nat} (h1 : s ≤ e) (h2 : e ≤ w.len) : w.indexRange s e = .ok ⟨w.off + s, e - s⟩ := by
  simp [indexRange, h1, h2]

/-- The model computes the end as `s + l`; these forms give the length back as `l`, not `s + l - s`. -/
theorem getRange_add {s l : Nat} (h : s + l ≤ w.len) : w.getRange s (s + l) = .ok ⟨w.off + s, l⟩ := by
  rw [getRange_ok (Nat.le_add_right s l) h, Nat.add_sub_cancel_left]

theorem indexRange_add {s l : Nat} (h : s + l ≤ w.len) : w.indexRange s (s + l) = .ok ⟨w.off + s, l⟩ := by
  rw [indexRange_ok (Nat.le_add_right s l) h, Nat.add_sub_cancel_left]

theorem getIdx_ok {i : Nat} (h : i < w.len) : w.getIdx i = .ok (w.off + i) := by
  simp [getIdx, h]

theorem index_ok {i : Nat} (h : i < w.len) : w.index i = .ok (w.off + i) := by
  simp [index, h]

theorem index_panic {i : Nat} (h : w.len ≤ i) : w.index i = .error .panic := by
  simp [index, Nat.not_lt.2 h]

theorem indexTo_ok {e : Nat} (h : e ≤ w.len) : w.indexTo e = .ok ⟨w.off, e⟩ := if_pos h

theorem indexTo_panic {e : Nat} (h : w.len < e) : w.indexTo e = .error .panic := if_neg (Nat.not_le.2 h)

end Win

end Toodee
