import Toodee.Base.Buf
import Toodee.Base.Core
import Toodee.Base.Mem
import Toodee.Impl.Copy
import Toodee.Impl.Flatten
import Toodee.Impl.Insert
import Toodee.Impl.Iter
import Toodee.Impl.Ops
import Toodee.Impl.Recv
import Toodee.Impl.Remove
import Toodee.Impl.Serde
import Toodee.Impl.Sort
import Toodee.Impl.TooDee
import Toodee.Impl.Translate
import Toodee.Impl.View
import Toodee.Spec.Cells
import Toodee.Spec.Grid
import Toodee.Spec.History
import Toodee.Spec.Inv
import Toodee.Spec.IterAbs
import Toodee.Spec.OpsSpec
import Toodee.Spec.Seq
import Toodee.Proofs.CellsLemmas
import Toodee.Proofs.CopyLemmas
import Toodee.Proofs.DerivedTraits
import Toodee.Proofs.DrainLemmas
import Toodee.Proofs.FlatLemmas
import Toodee.Proofs.GridLemmas
import Toodee.Proofs.HistoryFlow
import Toodee.Proofs.HistoryInplace
import Toodee.Proofs.HistoryLemmas
import Toodee.Proofs.HistoryView
import Toodee.Proofs.Index
import Toodee.Proofs.InsertLemmas
import Toodee.Proofs.IterLemmas
import Toodee.Proofs.ListLemmas
import Toodee.Proofs.MemLemmas
import Toodee.Proofs.Orbit
import Toodee.Proofs.RemoveLemmas
import Toodee.Proofs.RunSpec
import Toodee.Proofs.SeqLemmas
import Toodee.Proofs.SerdeLemmas
import Toodee.Proofs.SortLemmas
import Toodee.Proofs.SwapLemmas
import Toodee.Proofs.SpecCells
import Toodee.Proofs.SwapTrace
import Toodee.Proofs.TranslateLemmas
import Toodee.Proofs.ViewLemmas
import Toodee.Properties.C01
import Toodee.Properties.C02
import Toodee.Properties.C02Recv
import Toodee.Properties.C03
import Toodee.Properties.C04
import Toodee.Properties.C04Frame
import Toodee.Properties.C05
import Toodee.Properties.C06
import Toodee.Properties.C07
import Toodee.Properties.C08
import Toodee.Properties.C09
import Toodee.Properties.C10
import Toodee.Properties.C11
import Toodee.Properties.C12
import Toodee.Properties.C13
import Toodee.Properties.C13Dispatch
import Toodee.Properties.C14
import Toodee.Properties.C15
import Toodee.Properties.C16
import Toodee.Properties.C16Methods
import Toodee.Properties.C17
import Toodee.Properties.C18
import Toodee.Properties.C19
import Toodee.Properties.C20
import Toodee.Driver.Json
import Toodee.Driver.Machine
import Toodee.Driver.Oracle
import Toodee.Driver.Proto
import Toodee.Driver.Run
import Toodee.Driver.SpecOracle
import Toodee.Driver.Step
import Toodee.Driver.Step2
import Toodee.Driver.StepSerde
